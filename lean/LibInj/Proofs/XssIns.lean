import LibInj.Proofs.H5Ins
import LibInj.Proofs.XssShift
import LibInj.Proofs.NulClass
/-! C11, NUL clause at full strength: in any one context, inserting a NUL strictly inside a tag-name or
attribute-name token never changes that context's verdict.

The run on `a ++ b` and the run on `a ++ 0 :: b` are followed in lock step: every step that ends before the
insertion point is the same step (`next_loc`), so the tokens judged so far and the pending attribute type
are the same; the step that emits the name token containing the insertion point emits it one byte longer —
the classifiers ignore NULs — and from then on both machines read the same suffix (shift naturality, C13). -/
namespace LibInj.Xss
open LibInj LibInj.H5

/-! the remaining fields of `re` and `insN` (`re_s`, `re_pos`, `re_state`, `re_isClose` are in `H5Ins`) -/
@[simp] theorem re_tokType (a b : Bytes) (h : H) : (re a b h).tokType = h.tokType := rfl
@[simp] theorem re_tokStart (a b : Bytes) (h : H) : (re a b h).tokStart = h.tokStart := rfl
@[simp] theorem re_tokLen (a b : Bytes) (h : H) : (re a b h).tokLen = h.tokLen := rfl
@[simp] theorem insN_tokType (a b : Bytes) (h : H) : (insN a b h).tokType = h.tokType := rfl
@[simp] theorem insN_tokStart (a b : Bytes) (h : H) : (insN a b h).tokStart = h.tokStart := rfl
@[simp] theorem insN_tokLen (a b : Bytes) (h : H) : (insN a b h).tokLen = h.tokLen + 1 := rfl
@[simp] theorem insN_s (a b : Bytes) (h : H) : (insN a b h).s = a ++ 0 :: b := rfl

/-- the run from `h` reaches, through steps that end before offset `m`, a step that emits a name token
strictly containing `m` (`n` bounds the number of steps) -/
def Reaches (m : Nat) : Nat → H → Prop
  | 0, _ => False
  | n + 1, h => ∃ h1, next h = .ok (true, h1) ∧ (Straddle m h1 ∨ (Before m h1 ∧ Reaches m n h1))

theorem slice_ins (a b : Bytes) (x y : Nat) (hy : y ≤ a.length) (hxy : x ≤ y) : slice (a ++ 0 :: b) x y = slice (a ++ b) x y := by
  rw [slice_ok _ _ _ hxy (by simp; omega), slice_ok _ _ _ hxy (by simp; omega), take_ins a b x (y - x) (by omega)]

theorem slice_drop_ins (a b : Bytes) (q x y : Nat) (hy : q + y ≤ a.length) (hxy : x ≤ y) :
    slice ((a ++ 0 :: b).drop q) x y = slice ((a ++ b).drop q) x y := by
  rw [drop_append_le a (0 :: b) q (by omega), drop_append_le a b q (by omega)]
  exact slice_ins (a.drop q) b x y (by simp; omega) hxy

theorem at_drop_ins (a b : Bytes) (q k : Nat) (hk : q + k < a.length) :
    at' ((a ++ 0 :: b).drop q) k = at' ((a ++ b).drop q) k := by
  unfold at'
  rw [List.getElem?_drop, List.getElem?_drop, get_ins_lt a b _ hk]

/-- the comment tests read the token only -/
theorem commentIsXSS_re (a b : Bytes) (h : H) (hs : h.s = a ++ b) (hend : h.tokStart + h.tokLen ≤ a.length) :
    commentIsXSS (re a b h) = commentIsXSS h := by
  have hl : (a ++ b).length = a.length + b.length := by simp
  have hle : h.tokStart ≤ (a ++ b).length := by omega
  unfold commentIsXSS
  simp only [re, hs, slice_ins a b _ _ hend (Nat.le_add_right _ _), offFrom_re a b _ hle, offFrom_ok hle, bind, Except.bind, pure, Except.pure]
  cases slice (a ++ b) h.tokStart (h.tokStart + h.tokLen) with
  | error e => rfl
  | ok t =>
    simp only []
    split
    · rfl
    · by_cases h3 : h.tokLen > 3
      · simp only [h3, ↓reduceIte, at_drop_ins a b h.tokStart 0 (by omega), slice_drop_ins a b h.tokStart 1 3 (by omega) (by omega),
          slice_drop_ins a b h.tokStart 0 3 (by omega) (by omega)]
        by_cases h5 : h.tokLen > 5
        · simp only [h5, ↓reduceIte, slice_drop_ins a b h.tokStart 0 6 (by omega) (by omega)]
        · simp only [h5, ↓reduceIte]
      · have h5 : ¬ h.tokLen > 5 := by omega
        simp only [h3, h5, ↓reduceIte]

theorem before_tok (m : Nat) (h h1 : H) (hi : Inv h) (h2 : h.state = .tagOpen → 1 ≤ h.pos) (hn : next h = .ok (true, h1))
    (hb : Before m h1) : h1.tokStart + h1.tokLen ≤ m := by
  obtain ⟨_, o2, _⟩ := next_ord h hi h2 h1 hn
  unfold lbN at o2
  rw [if_neg hb.2] at o2
  unfold Before at hb
  omega

theorem after_name (a b : Bytes) (h1 : H) (hs : h1.s = a ++ b) (hi : Inv h1) (hok : ShOK h1) (hm : h1.state = .eof ∨ a.length < h1.pos)
    (attr fuel fuel' : Nat) (hf : mu h1 < fuel) (hf' : mu h1 < fuel') :
    xssLoop (insN a b h1) attr fuel' = xssLoop h1 attr fuel := by
  have hl : (a ++ b).length = a.length + b.length := by simp
  cases fuel with
  | zero => omega
  | succ fuel =>
  cases fuel' with
  | zero => omega
  | succ fuel' =>
  by_cases he : h1.state = .eof
  · rw [xssLoop_eof h1 he, xssLoop_eof (insN a b h1) (by simpa [insN] using he)]
  · have hpm : a.length < h1.pos := by rcases hm with h | h; exact absurd h he; exact h
    have hpl : h1.pos ≤ (a ++ b).length := by rw [← hs]; exact hi.1
    obtain ⟨_, i1, i2, i3⟩ := hi
    obtain ⟨o1, o2, o3, o4, o5, o6⟩ := hok
    -- the common suffix, from one byte before the scan offset
    have hgl : ((a ++ b).drop (h1.pos - 1)).length = (a ++ b).length - (h1.pos - 1) := by simp
    have hg_inv : Inv { h1 with s := (a ++ b).drop (h1.pos - 1), pos := 1 } := by
      refine ⟨?_, ?_, ?_, ?_⟩
      · simp only [hgl]; omega
      · intro _; exact Nat.le_refl _
      · intro hst; simp only [hgl]; have := i2 hst; rw [hs] at this; omega
      · intro hst; simp only at hst; rcases hst with h | h | h
        · exact absurd h o4
        · exact absurd h o5
        · exact absurd h o6
    have hg_ok : ShOK { h1 with s := (a ++ b).drop (h1.pos - 1), pos := 1 } :=
      ⟨fun _ => Nat.le_refl _, fun _ => Nat.le_refl _, fun _ => Nat.le_refl _, o4, o5, o6⟩
    have hg_mu : mu { h1 with s := (a ++ b).drop (h1.pos - 1), pos := 1 } = mu h1 := by
      unfold mu; simp only [hgl, hs]; omega
    have e1 : h1 = shiftG ((a ++ b).take (h1.pos - 1)) h1.tokStart h1.tokLen h1.tokType
        { h1 with s := (a ++ b).drop (h1.pos - 1), pos := 1 } := by
      refine H_eq _ _ ?_ ?_ rfl rfl rfl rfl rfl
      · simp only [shiftG_s, List.take_append_drop]; exact hs
      · simp only [shiftG_pos, List.length_take]; omega
    have e2 : insN a b h1 = shiftG ((a ++ 0 :: b).take (h1.pos - 1 + 1)) h1.tokStart (h1.tokLen + 1) h1.tokType
        { h1 with s := (a ++ b).drop (h1.pos - 1), pos := 1 } := by
      refine H_eq _ _ ?_ ?_ rfl rfl rfl rfl rfl
      · simp only [shiftG_s, insN]
        rw [← drop_ins_ge a b (h1.pos - 1) (by omega), List.take_append_drop]
      · simp only [shiftG_pos, insN, List.length_take, len_ins]; omega
    rw [e2]
    conv => rhs; rw [e1]
    rw [xssLoop_sh _ (fuel + 1) (fuel' + 1) _ _ _ _ attr hg_inv hg_ok (by rw [hg_mu]; exact hf) (by rw [hg_mu]; exact hf')]
    rw [xssLoop_sh _ (fuel + 1) (fuel + 1) _ _ _ _ attr hg_inv hg_ok (by rw [hg_mu]; exact hf) (by rw [hg_mu]; exact hf)]

theorem straddle_slices (a b : Bytes) (ts tl : Nat) (h1 : ts < a.length) (h2 : a.length < ts + tl) (h3 : ts + tl ≤ (a ++ b).length) :
    slice (a ++ b) ts (ts + tl) = .ok (a.drop ts ++ b.take (ts + tl - a.length)) ∧
    slice (a ++ 0 :: b) ts (ts + (tl + 1)) = .ok (a.drop ts ++ 0 :: b.take (ts + tl - a.length)) := by
  have hdl : (a.drop ts).length = a.length - ts := by simp
  rw [slice_ok _ _ _ (by omega) h3, slice_ok _ _ _ (by omega) (by rw [len_ins]; omega),
    drop_append_le a b ts (by omega), drop_append_le a (0 :: b) ts (by omega)]
  constructor
  · rw [List.take_append, List.take_of_length_le (by omega), hdl,
      show ts + tl - ts - (a.length - ts) = ts + tl - a.length by omega]
  · rw [List.take_append, List.take_of_length_le (by omega), hdl,
      show ts + (tl + 1) - ts - (a.length - ts) = (ts + tl - a.length) + 1 by omega]
    rfl

theorem xssLoop_ins (a b : Bytes) : ∀ (n : Nat) (h : H) (attr fuel fuel' : Nat), h.s = a ++ b → Inv h → (h.state = .tagOpen → 1 ≤ h.pos) →
    Reaches a.length n h → mu h < fuel → mu h < fuel' → xssLoop (re a b h) attr fuel' = xssLoop h attr fuel
  | 0, _, _, _, _, _, _, _, hr, _, _ => by cases hr
  | n + 1, h, attr, fuel, fuel', hs, hi, h2, hr, hf, hf' => by
    obtain ⟨h1, hn, hcase⟩ := hr
    have loc := next_loc a b h hs hi h2 h1 hn
    obtain ⟨bb, h1', hn0, hs1, hrest⟩ := next_spec h hi
    rw [hn] at hn0
    simp only [Except.ok.injEq, Prod.mk.injEq] at hn0
    obtain ⟨rfl, rfl⟩ := hn0
    obtain ⟨hmu, hinv1, htok, _⟩ := hrest rfl
    have hok1 := next_shok h hi h1 hn
    have hs1' : h1.s = a ++ b := by rw [hs1, hs]
    cases fuel with
    | zero => omega
    | succ fuel =>
    cases fuel' with
    | zero => omega
    | succ fuel' =>
    rcases hcase with hst | ⟨hb, hr1⟩
    · -- the name token that contains the insertion point
      have hn' := loc.2 hst
      obtain ⟨hname, hts, htl⟩ := hst
      rw [hs] at htok
      obtain ⟨sl1, sl2⟩ := straddle_slices a b h1.tokStart h1.tokLen hts htl htok
      have hm : h1.state = .eof ∨ a.length < h1.pos := by
        by_cases he : h1.state = .eof
        · exact Or.inl he
        · right
          obtain ⟨_, o2, _⟩ := next_ord h hi h2 h1 hn
          unfold lbN at o2; rw [if_neg he] at o2; omega
      have hafter : ∀ attr', xssLoop (insN a b h1) attr' fuel' = xssLoop h1 attr' fuel := fun attr' =>
        after_name a b h1 hs1' hinv1 hok1 hm attr' fuel fuel' (by omega) (by omega)
      unfold xssLoop
      simp only [hn, hn', bind, Except.bind, pure, Except.pure, Bool.not_true, Bool.false_eq_true, ↓reduceIte,
        insN_tokType, insN_tokStart, insN_tokLen, insN_s, hs1', sl1, sl2]
      rcases hname with ht | ht | ht
      · simp only [ht, isBlackTag_nul, hafter]
      · simp only [ht, hafter]
      · simp only [ht, isBlackAttr_nul, hafter]
    · -- a step that ends before the insertion point
      have hn' := loc.1 hb
      have hend := before_tok a.length h h1 hi h2 hn hb
      have ih : ∀ attr', xssLoop (re a b h1) attr' fuel' = xssLoop h1 attr' fuel := fun attr' =>
        xssLoop_ins a b n h1 attr' fuel fuel' hs1' hinv1 hok1.2.1 hr1 (by omega) (by omega)
      unfold xssLoop
      simp only [hn, hn', bind, Except.bind, pure, Except.pure, Bool.not_true, Bool.false_eq_true, ↓reduceIte,
        re_tokType, re_tokStart, re_tokLen, re_s, slice_ins a b _ _ hend (Nat.le_add_right _ _), commentIsXSS_re a b h1 hs1' hend, ih, ← hs1']
      rfl

/-- **C11, NUL clause.** If, in context `ctx`, the tokenizer reaches — through tokens that end before it — a
tag-name or attribute-name token that strictly contains offset `|a|`, the verdict of that context is the same
for `a ++ b` and for `a ++ 0 :: b`. -/
theorem isXSSCtx_nul (a b : Bytes) (ctx n : Nat) (hr : Reaches a.length n (init (a ++ b) ctx)) :
    isXSSCtx (a ++ 0 :: b) ctx = isXSSCtx (a ++ b) ctx := by
  unfold isXSSCtx
  have hre : init (a ++ 0 :: b) ctx = re a b (init (a ++ b) ctx) := rfl
  rw [hre]
  have h2 : (init (a ++ b) ctx).state = .tagOpen → 1 ≤ (init (a ++ b) ctx).pos := by
    unfold init; simp only []; split <;> simp
  have hmu : mu (init (a ++ b) ctx) ≤ 3 * (a ++ b).length + 3 := by
    unfold mu
    have := rank_le (init (a ++ b) ctx).state
    have hp : (init (a ++ b) ctx).pos = 0 := rfl
    have hs : (init (a ++ b) ctx).s = a ++ b := rfl
    rw [hp, hs]; omega
  exact xssLoop_ins a b n _ 0 _ _ rfl (init_inv _ _) h2 hr
    (by unfold xssFuel; omega) (by unfold xssFuel; rw [len_ins]; omega)

/-! ### from the token list to the lock-step condition -/

/-- a name token never starts before the scan offset of the step that emits it (the two states that re-emit
the byte before the scan offset emit `<` as text, or `/>`) -/
theorem next_name_start (h x : H) (hi : Inv h) (h2 : h.state = .tagOpen → 1 ≤ h.pos) (hx : next h = .ok (true, x))
    (hn : IsName x.tokType) : h.pos ≤ x.tokStart := by
  have o1 := (next_ord h hi h2 x hx).1
  by_cases hd : delta h.state = 0
  · have hne : h.state ≠ .eof := by
      intro he; unfold next at hx; rw [he] at hx
      simp only [pure, Except.pure, Except.ok.injEq, Prod.mk.injEq] at hx
      exact absurd hx.1 (by decide)
    unfold lbN at o1; rw [if_neg hne, hd] at o1; omega
  · unfold next at hx
    cases hs : h.state with
    | tagOpen => rw [hs] at hx; exact (tagOpen_far _ h (h2 hs) x hx).2 hn
    | selfClosing => rw [hs] at hx; exact (selfClosing_far _ h hi.1 (hi.2.1 hs) x hx).2 hn
    | _ => rw [hs] at hd; exact absurd rfl hd

def IsNameTok (t : Tok) : Prop := IsName t.ty

theorem tokensLoop_names : ∀ (fuel : Nat) (h : H) (ts : List Tok), Inv h → (h.state = .tagOpen → 1 ≤ h.pos) →
    tokensLoop h fuel = .ok ts → ∀ t ∈ ts, IsNameTok t → h.pos ≤ t.off
  | 0, _, _, _, _, hr => by cases hr
  | fuel + 1, h, ts, hi, h2, hr => by
    rcases tokensLoop_step fuel h ts hi hr with rfl | ⟨h', rest, hn, hrec, rfl, _, hinv', h2', hmono⟩
    · intro t ht; cases ht
    · intro t ht hname
      rcases List.mem_cons.mp ht with rfl | ht
      · exact next_name_start h h' hi h2 hn hname
      · have := tokensLoop_names fuel h' rest hinv' h2' hrec t ht hname
        omega

theorem reaches_of_tokens (m : Nat) : ∀ (fuel : Nat) (h : H) (ts : List Tok), Inv h → (h.state = .tagOpen → 1 ≤ h.pos) →
    tokensLoop h fuel = .ok ts → (∃ t ∈ ts, IsNameTok t ∧ t.off < m ∧ m < t.off + t.len) → Reaches m fuel h
  | 0, _, _, _, _, hr, _ => by cases hr
  | fuel + 1, h, ts, hi, h2, hr, hex => by
    obtain ⟨t, ht, hname, hlo, hhi⟩ := hex
    rcases tokensLoop_step fuel h ts hi hr with rfl | ⟨h', rest, hn, hrec, rfl, _, hinv', h2', hmono⟩
    · cases ht
    · refine ⟨h', hn, ?_⟩
      rcases List.mem_cons.mp ht with rfl | ht
      · exact Or.inl ⟨hname, hlo, hhi⟩
      · right
        have hpos := tokensLoop_names fuel h' rest hinv' h2' hrec t ht hname
        -- a run that has a further token is not at end of input
        have hne : h'.state ≠ .eof := by
          intro he
          cases fuel with
          | zero => cases hrec
          | succ fuel =>
            unfold tokensLoop next at hrec
            rw [he] at hrec
            simp only [bind, Except.bind, pure, Except.pure, Bool.false_eq_true, ↓reduceIte, Except.ok.injEq] at hrec
            subst hrec
            cases ht
        exact ⟨⟨by omega, hne⟩, reaches_of_tokens m fuel h' rest hinv' h2' hrec ⟨t, ht, hname, hlo, hhi⟩⟩

/-- **C11, NUL clause, as the property words it.** For every input, every context and every offset strictly
inside a tag-name or attribute-name token of that input in that context, inserting a NUL at that offset does
not change the context's verdict. -/
theorem nul_in_name_token (s : Bytes) (ctx : Nat) (ts : List Tok) (hts : tokens s ctx = .ok ts) (t : Tok) (ht : t ∈ ts)
    (hname : t.ty = .tagNameOpen ∨ t.ty = .tagClose ∨ t.ty = .attrName) (m : Nat) (hlo : t.off < m) (hhi : m < t.off + t.len) :
    isXSSCtx (s.take m ++ 0 :: s.drop m) ctx = isXSSCtx s ctx := by
  obtain ⟨ts', hts', hin, _⟩ := tokens_total s ctx
  rw [hts] at hts'
  simp only [Except.ok.injEq] at hts'
  subst hts'
  have hlen : m ≤ s.length := by have := hin t ht; omega
  have hal : (s.take m).length = m := by simp; omega
  have hst : (init s ctx).state ≠ .tagOpen := by unfold init; simp only []; split <;> simp
  unfold tokens at hts
  have hr := reaches_of_tokens m _ (init s ctx) ts (init_inv s ctx) (fun h => absurd h hst) hts ⟨t, ht, hname, hlo, hhi⟩
  have := isXSSCtx_nul (s.take m) (s.drop m) ctx _ (by rw [hal, List.take_append_drop]; exact hr)
  rw [List.take_append_drop] at this
  exact this

end LibInj.Xss
