import LibInj.Proofs.H5Order
import LibInj.Proofs.H5Shift
import LibInj.Proofs.H5Term
/-! C11, NUL clause: one tokenizer step on `a ++ b` and on `a ++ 0 :: b` (a NUL inserted at offset `|a|`).

For every state function: if the step on `a ++ b` ends strictly before the insertion point (and not at end
of input), the step on `a ++ 0 :: b` is the same step (`re`: only the input differs) — the tokenizer never
looks past the end of what it consumes, except for look-ahead that is itself consumed by the same step; and
if the step emits a tag-name / attribute-name token that strictly contains the insertion point, the step on
`a ++ 0 :: b` emits the same token one byte longer and resumes one byte later (`insN`). -/
namespace LibInj.H5
open LibInj

/-- the same machine state over the input with the NUL inserted -/
def re (a b : Bytes) (h : H) : H := { h with s := a ++ 0 :: b }

/-- the state after a name token that contains the inserted NUL: the scan offset moves by one when it is beyond `|a|`
and stays when it is not (a token that ran to end of input leaves it where the step began). Written with `min` and truncated
subtraction, which `omega` decides, and not with `if`, which it does not. -/
def insN (a b : Bytes) (h : H) : H :=
  { h with s := a ++ 0 :: b, tokLen := h.tokLen + 1, pos := h.pos + min 1 (h.pos - a.length) }

def IsName (t : Ty) : Prop := t = .tagNameOpen ∨ t = .tagClose ∨ t = .attrName

/-- the token of `h` is a name token that strictly contains offset `m` -/
def Straddle (m : Nat) (h : H) : Prop := IsName h.tokType ∧ h.tokStart < m ∧ m < h.tokStart + h.tokLen

/-- the step ended strictly before offset `m`, and not at end of input -/
def Before (m : Nat) (h : H) : Prop := h.pos < m ∧ h.state ≠ .eof

/-- what one step on `a ++ b` (result `r`) says about the step on `a ++ 0 :: b` (result `r'`) -/
def Loc (a b : Bytes) (r r' : M (Bool × H)) : Prop :=
  ∀ h1, r = .ok (true, h1) →
    (Before a.length h1 → r' = .ok (true, re a b h1)) ∧ (Straddle a.length h1 → r' = .ok (true, insN a b h1))

@[simp] theorem re_s (a b : Bytes) (h : H) : (re a b h).s = a ++ 0 :: b := rfl
@[simp] theorem re_pos (a b : Bytes) (h : H) : (re a b h).pos = h.pos := rfl
@[simp] theorem re_state (a b : Bytes) (h : H) : (re a b h).state = h.state := rfl
@[simp] theorem re_isClose (a b : Bytes) (h : H) : (re a b h).isClose = h.isClose := rfl

/-! ### the scanning primitives on `a ++ b` and on `a ++ 0 :: b` -/

theorem len_ins (a b : Bytes) : (a ++ 0 :: b).length = (a ++ b).length + 1 := by simp; omega

theorem get_ins_lt (a b : Bytes) (i : Nat) (h : i < a.length) : (a ++ 0 :: b)[i]? = (a ++ b)[i]? := by
  rw [List.getElem?_append_left h, List.getElem?_append_left h]

theorem get_ins_ge (a b : Bytes) (i : Nat) (h : a.length ≤ i) : (a ++ 0 :: b)[i + 1]? = (a ++ b)[i]? := by
  rw [List.getElem?_append_right (by omega), List.getElem?_append_right h]
  rw [show i + 1 - a.length = (i - a.length) + 1 by omega]
  rfl

theorem drop_ins_ge (a b : Bytes) (c : Nat) (h : a.length ≤ c) : (a ++ 0 :: b).drop (c + 1) = (a ++ b).drop c := by
  rw [List.drop_append, List.drop_append, List.drop_eq_nil_of_le (by omega), List.drop_eq_nil_of_le h]
  rw [show c + 1 - a.length = (c - a.length) + 1 by omega]
  rfl

theorem offFrom_re (a b : Bytes) (i : Nat) (h : i ≤ (a ++ b).length) : offFrom (a ++ 0 :: b) i = .ok i :=
  offFrom_ok (by rw [len_ins]; omega)

theorem at_re (a b : Bytes) (h : H) (hs : h.s = a ++ b) (hm : h.pos < a.length) :
    ¬ h.pos ≥ (a ++ 0 :: b).length ∧ at' (a ++ 0 :: b) h.pos = at' h.s h.pos := by
  refine ⟨by simp; omega, ?_⟩
  unfold at'
  rw [get_ins_lt a b _ hm, hs]

theorem indexByte_ins (a b : Bytes) (c : UInt8) (p i : Nat) (hi : indexByte ((a ++ b).drop p) c = some i) (hlt : p + i < a.length) :
    indexByte ((a ++ 0 :: b).drop p) c = some i := by
  rw [drop_append_le a b p (by omega)] at hi
  rw [drop_append_le a (0 :: b) p (by omega)]
  exact indexByte_pre c _ b (0 :: b) i hi (by simp; omega)

theorem spn_pre (p : UInt8 → Bool) : ∀ (x y y' : Bytes), spn p (x ++ y) < x.length → spn p (x ++ y') = spn p (x ++ y)
  | [], _, _, h => by cases h
  | e :: x, y, y', h => by
    simp only [List.cons_append, spn] at h ⊢
    split
    · rename_i he
      simp only [he, ↓reduceIte] at h
      rw [spn_pre p x y y' (by simp at h; omega)]
    · rfl

theorem spn_cross (p : UInt8 → Bool) (hp : p 0 = true) : ∀ (x y : Bytes), x.length ≤ spn p (x ++ y) →
    spn p (x ++ 0 :: y) = spn p (x ++ y) + 1
  | [], y, _ => by simp [spn, hp]
  | e :: x, y, h => by
    simp only [List.cons_append, spn] at h ⊢
    split
    · rename_i he
      simp only [he, ↓reduceIte] at h
      rw [spn_cross p hp x y (by simp at h; omega)]
    · rename_i he
      simp only [he, Bool.false_eq_true, ↓reduceIte] at h
      simp at h

theorem scan_same (p : UInt8 → Bool) (a b : Bytes) (q : Nat) (h : q + spn p ((a ++ b).drop q) < a.length) :
    spn p ((a ++ 0 :: b).drop q) = spn p ((a ++ b).drop q) ∧
    (a ++ 0 :: b)[q + spn p ((a ++ b).drop q)]? = (a ++ b)[q + spn p ((a ++ b).drop q)]? := by
  refine ⟨?_, get_ins_lt a b _ h⟩
  rw [drop_append_le a b q (by omega)] at h ⊢
  rw [drop_append_le a (0 :: b) q (by omega)]
  exact spn_pre p _ b (0 :: b) (by simp; omega)

theorem scan_cross (p : UInt8 → Bool) (hp : p 0 = true) (a b : Bytes) (q : Nat) (hq : q ≤ a.length)
    (h : a.length ≤ q + spn p ((a ++ b).drop q)) :
    spn p ((a ++ 0 :: b).drop q) = spn p ((a ++ b).drop q) + 1 ∧
    (a ++ 0 :: b)[q + (spn p ((a ++ b).drop q) + 1)]? = (a ++ b)[q + spn p ((a ++ b).drop q)]? := by
  refine ⟨?_, get_ins_ge a b _ h⟩
  rw [drop_append_le a b q hq] at h ⊢
  rw [drop_append_le a (0 :: b) q hq]
  exact spn_cross p hp _ b (by simp; omega)

theorem nul_name_bytes : tagNameByte 0 = true ∧ attrNameByte 0 = true := by decide

/-! ### how `Loc` is established -/

theorem Loc.ok {a b : Bytes} {x : H} {r' : M (Bool × H)} (hB : Before a.length x → r' = .ok (true, re a b x))
    (hS : Straddle a.length x → r' = .ok (true, insN a b x)) : Loc a b (.ok (true, x)) r' := by
  intro h1 hn
  simp only [Except.ok.injEq, Prod.mk.injEq, true_and] at hn
  subst hn
  exact ⟨hB, hS⟩

theorem Loc.ok_false (a b : Bytes) (x : H) (r' : M (Bool × H)) : Loc a b (.ok (false, x)) r' := by
  intro h1 hn
  simp only [Except.ok.injEq, Prod.mk.injEq] at hn
  exact absurd hn.1 (by decide)

theorem Loc.ite {a b : Bytes} {c : Prop} [Decidable c] {x y x' y' : M (Bool × H)} (hx : Loc a b x x') (hy : Loc a b y y') :
    Loc a b (if c then x else y) (if c then x' else y') := by
  by_cases hc : c
  · rw [if_pos hc, if_pos hc]; exact hx
  · rw [if_neg hc, if_neg hc]; exact hy

/-- a token that ends at or before the insertion point: the same step -/
theorem Loc.same {a b : Bytes} {x : H} (h : x.tokStart + x.tokLen ≤ a.length) : Loc a b (.ok (true, x)) (.ok (true, re a b x)) :=
  Loc.ok (fun _ => rfl) (fun hst => by unfold Straddle at hst; omega)

/-- a step that ends at or beyond the insertion point, or at end of input, with a token that is no name -/
theorem Loc.other {a b : Bytes} {x : H} {r' : M (Bool × H)} (hn : ¬ IsName x.tokType) (hp : x.state = .eof ∨ a.length ≤ x.pos) :
    Loc a b (.ok (true, x)) r' :=
  Loc.ok (fun hb => hp.elim (fun he => absurd he hb.2) (fun hge => absurd hb.1 (by omega))) (fun hst => absurd hst.1 hn)

/-- a name scan that ran through the insertion point and stopped at offset `p` of `a ++ b` -/
theorem Loc.cross {a b : Bytes} {h : H} {start len len' p p' : Nat} {ty : Ty} {st : St} (hp : a.length ≤ p) (hl : start + len ≤ p)
    (hl' : len' = len + 1) (hp' : p' = p + 1) :
    Loc a b (.ok (true, emit h start len ty p st)) (.ok (true, emit (re a b h) start len' ty p' st)) := by
  subst hl' hp'
  refine Loc.ok (fun hb => absurd hb.1 (by simp [emit]; omega)) (fun hst => ?_)
  have : a.length < start + len := hst.2.2
  refine congrArg (fun x => Except.ok (true, x)) (H_eq _ _ rfl ?_ rfl rfl rfl rfl rfl)
  simp [insN, emit]; omega

theorem not_name_comment : ¬ IsName Ty.tagComment := by unfold IsName; simp
theorem not_name_text : ¬ IsName Ty.dataText := by unfold IsName; simp
theorem not_name_doctype : ¬ IsName Ty.docType := by unfold IsName; simp
theorem not_name_value : ¬ IsName Ty.attrValue := by unfold IsName; simp
theorem not_name_close : ¬ IsName Ty.tagNameClose := by unfold IsName; simp
theorem not_name_self : ¬ IsName Ty.tagNameSelfClose := by unfold IsName; simp

/-! ### the three scans: tag name, attribute name, unquoted value -/

theorem stateTagName_loc (a b : Bytes) (h : H) (hs : h.s = a ++ b) (hp : h.pos < a.length) :
    Loc a b (stateTagName h) (stateTagName (re a b h)) := by
  have hlen : h.pos ≤ (a ++ b).length := by simp; omega
  unfold stateTagName
  simp only [re_s, re_pos, re_isClose, hs, offFrom_re a b h.pos hlen, offFrom_ok hlen, bind, Except.bind, pure, Except.pure]
  by_cases hcase : h.pos + spn tagNameByte ((a ++ b).drop h.pos) < a.length
  · obtain ⟨e1, e2⟩ := scan_same tagNameByte a b h.pos hcase
    rw [e1, e2]
    cases hg : (a ++ b)[h.pos + spn tagNameByte ((a ++ b).drop h.pos)]? with
    | none => exact absurd (List.getElem?_eq_none_iff.mp hg) (by simp; omega)
    | some ch =>
      -- whichever delimiter stopped the scan, the token ends there, inside `a`
      refine Loc.ite ?_ (Loc.ite ?_ (Loc.ite ?_ ?_))
      all_goals exact Loc.same (by simp [emit]; omega)
  · obtain ⟨e1, e2⟩ := scan_cross tagNameByte nul_name_bytes.1 a b h.pos (by omega) (by omega)
    rw [e1, e2, len_ins]
    cases hg : (a ++ b)[h.pos + spn tagNameByte ((a ++ b).drop h.pos)]? with
    | none =>
      refine Loc.ok (fun hb => absurd rfl hb.2) (fun _ => ?_)
      refine congrArg (fun x => Except.ok (true, x)) (H_eq _ _ rfl ?_ rfl rfl rfl ?_ rfl) <;> simp [insN] <;> omega
    | some ch =>
      refine Loc.ite ?_ (Loc.ite ?_ (Loc.ite ?_ ?_))
      · exact Loc.cross (by omega) (by omega) (by omega) (by omega)
      · exact Loc.cross (by omega) (by omega) (by omega) (by omega)
      · exact Loc.cross (h := { h with isClose := false }) (by simp [emit]; omega) (by simp [emit]) (by simp [emit]) rfl
      · exact Loc.cross (by omega) (by omega) (by omega) (by omega)

theorem stateAttributeName_loc (a b : Bytes) (h : H) (hs : h.s = a ++ b) (hp : h.pos < a.length) :
    Loc a b (stateAttributeName h) (stateAttributeName (re a b h)) := by
  have hlen : h.pos ≤ (a ++ b).length := by simp; omega
  unfold stateAttributeName
  simp only [re_s, re_pos, hs, offFrom_re a b h.pos hlen, offFrom_ok hlen, bind, Except.bind, pure, Except.pure]
  by_cases hcase : h.pos + 1 + spn attrNameByte ((a ++ b).drop (h.pos + 1)) < a.length
  · obtain ⟨e1, e2⟩ := scan_same attrNameByte a b (h.pos + 1) hcase
    rw [e1, e2]
    cases hg : (a ++ b)[h.pos + 1 + spn attrNameByte ((a ++ b).drop (h.pos + 1))]? with
    | none => exact absurd (List.getElem?_eq_none_iff.mp hg) (by simp; omega)
    | some ch =>
      refine Loc.ite ?_ (Loc.ite ?_ (Loc.ite ?_ ?_))
      all_goals exact Loc.same (by simp [emit]; omega)
  · obtain ⟨e1, e2⟩ := scan_cross attrNameByte nul_name_bytes.2 a b (h.pos + 1) (by omega) (by omega)
    rw [e1, e2, len_ins]
    cases hg : (a ++ b)[h.pos + 1 + spn attrNameByte ((a ++ b).drop (h.pos + 1))]? with
    | none => exact Loc.cross (by simp) (by omega) (by omega) rfl
    | some ch =>
      refine Loc.ite ?_ (Loc.ite ?_ (Loc.ite ?_ ?_))
      all_goals exact Loc.cross (by omega) (by omega) (by omega) (by omega)

theorem stateAttributeValueNoQuote_loc (a b : Bytes) (h : H) (hs : h.s = a ++ b) (hp : h.pos < a.length) :
    Loc a b (stateAttributeValueNoQuote h) (stateAttributeValueNoQuote (re a b h)) := by
  have hlen : h.pos ≤ (a ++ b).length := by simp; omega
  unfold stateAttributeValueNoQuote
  simp only [re_s, re_pos, hs, offFrom_re a b h.pos hlen, offFrom_ok hlen, bind, Except.bind, pure, Except.pure]
  by_cases hcase : h.pos + spn noQuoteByte ((a ++ b).drop h.pos) < a.length
  · obtain ⟨e1, e2⟩ := scan_same noQuoteByte a b h.pos hcase
    rw [e1, e2]
    cases hg : (a ++ b)[h.pos + spn noQuoteByte ((a ++ b).drop h.pos)]? with
    | none => exact absurd (List.getElem?_eq_none_iff.mp hg) (by simp; omega)
    | some ch =>
      refine Loc.ite ?_ ?_
      all_goals exact Loc.same (by simp [emit]; omega)
  · -- the value runs to the insertion point or beyond, and is no name
    obtain ⟨e1, e2⟩ := scan_cross noQuoteByte (by decide) a b h.pos (by omega) (by omega)
    rw [e1, e2]
    cases hg : (a ++ b)[h.pos + spn noQuoteByte ((a ++ b).drop h.pos)]? with
    | none => exact Loc.other not_name_value (Or.inl rfl)
    | some ch =>
      refine Loc.ite ?_ ?_
      all_goals exact Loc.other not_name_value (Or.inr (by simp [emit]; omega))

/-! ### states that search for one byte: the token ends before the insertion point, or the step has nothing to say -/

theorem gt_loc (a b : Bytes) (h : H) (hs : h.s = a ++ b) (hp : h.pos ≤ h.s.length) :
    Loc a b (stateBogusComment h) (stateBogusComment (re a b h)) ∧ Loc a b (stateDoctype h) (stateDoctype (re a b h)) := by
  rw [hs] at hp
  unfold stateBogusComment stateDoctype
  simp only [re_s, re_pos, hs, offFrom_re a b h.pos hp, offFrom_ok hp, bind, Except.bind, pure, Except.pure]
  cases hi : indexByte ((a ++ b).drop h.pos) 62 with
  | none => exact ⟨Loc.other not_name_comment (Or.inl rfl), Loc.other not_name_doctype (Or.inl rfl)⟩
  | some i =>
    by_cases hlt : h.pos + i + 1 < a.length
    · rw [indexByte_ins a b 62 h.pos i hi (by omega)]
      exact ⟨Loc.same (by simp [emit]; omega), Loc.same (by simp [emit]; omega)⟩
    · exact ⟨Loc.other not_name_comment (Or.inr (by simp [emit]; omega)), Loc.other not_name_doctype (Or.inr (by simp [emit]; omega))⟩

theorem stateBogusComment_loc (a b : Bytes) (h : H) (hs : h.s = a ++ b) (hp : h.pos ≤ h.s.length) :
    Loc a b (stateBogusComment h) (stateBogusComment (re a b h)) := (gt_loc a b h hs hp).1

theorem stateDoctype_loc (a b : Bytes) (h : H) (hs : h.s = a ++ b) (hp : h.pos ≤ h.s.length) :
    Loc a b (stateDoctype h) (stateDoctype (re a b h)) := (gt_loc a b h hs hp).2

theorem stateAttributeValueQuote_loc (q : UInt8) (a b : Bytes) (h : H) (hs : h.s = a ++ b) (hp : h.pos < h.s.length ∨ h.pos = 0) :
    Loc a b (stateAttributeValueQuote q h) (stateAttributeValueQuote q (re a b h)) := by
  rw [hs] at hp
  unfold stateAttributeValueQuote
  -- the offset `p` the search starts from
  generalize hp0 : (if h.pos > 0 then h.pos + 1 else h.pos) = p
  have e : ∀ h' : H, h'.pos = h.pos → (if h'.pos > 0 then { h' with pos := h'.pos + 1 } else h') = { h' with pos := p } := by
    intro h' he
    rw [← hp0, he]
    split <;> simp [← he]
  rw [e h rfl, e (re a b h) rfl]
  have hl : p ≤ (a ++ b).length := by rw [← hp0]; split <;> omega
  simp only [re_s, hs, offFrom_re a b p hl, offFrom_ok hl, bind, Except.bind, pure, Except.pure]
  cases hi : indexByte ((a ++ b).drop p) q with
  | none => exact Loc.other not_name_value (Or.inl rfl)
  | some i =>
    by_cases hlt : p + i + 1 < a.length
    · rw [indexByte_ins a b q p i hi (by omega)]
      exact Loc.same (by simp [emit]; omega)
    · exact Loc.other not_name_value (Or.inr (by simp [emit]; omega))

theorem stateTagNameClose_loc (a b : Bytes) (h : H) (hs : h.s = a ++ b) (hp : h.pos < h.s.length) :
    Loc a b (stateTagNameClose h) (stateTagNameClose (re a b h)) := by
  rw [hs] at hp
  unfold stateTagNameClose
  simp only [re_s, re_pos, hs, offFrom_re a b h.pos (Nat.le_of_lt hp), offFrom_ok (Nat.le_of_lt hp), bind, Except.bind, pure, Except.pure]
  refine Loc.ok (fun hb => ?_) (fun hst => absurd hst.1 not_name_close)
  have h1 : h.pos + 1 < (a ++ b).length := by
    have := hb.2; simp at this; simp; omega
  have h2 : h.pos + 1 < (a ++ 0 :: b).length := by rw [len_ins]; omega
  simp only [h1, h2, ↓reduceIte]
  rfl

/-! ### states that search for a terminator of several bytes -/

/-- a terminator that ends before the insertion point is found on both inputs, and no earlier one appears -/
theorem Searches.loc {f : H → M (Bool × H)} {T : Bytes → Nat → Nat → Prop} {ty : Ty} (hS : Searches f T ty) (hty : ¬ IsName ty)
    (a b : Bytes)
    (hT1 : ∀ i wd, T (a ++ b) i wd → i + wd < a.length → T (a ++ 0 :: b) i wd)
    (hT2 : ∀ i wd j wd', T (a ++ b) i wd → i + wd < a.length → j < i → T (a ++ 0 :: b) j wd' → T (a ++ b) j wd')
    (h : H) (hs : h.s = a ++ b) (hp : h.pos ≤ h.s.length) : Loc a b (f h) (f (re a b h)) := by
  rcases hS.cases h hp with ⟨i, wd, hTi, hpi, hl, hf⟩ | hx | hx
  · rw [hf]
    refine Loc.ok (fun hb => ?_) (fun hst => absurd hst.1 hty)
    have hlt : i + wd < a.length := hb.1
    rw [hs] at hTi hl hp
    exact (hS (re a b h) (by simp only [re_pos, re_s, len_ins]; omega)).1 i wd (hT1 i wd hTi hlt) hpi
      (fun j wd' hj hji hTj => hl j wd' hj hji (hT2 i wd j wd' hTi hlt hji hTj))
  · rw [hx]; exact Loc.other hty (Or.inl rfl)
  · rw [hx]; exact Loc.other hty (Or.inl rfl)

theorem term3_ins (a b : Bytes) (x y z : UInt8) (i : Nat) (h : i + 3 ≤ a.length) :
    Term3 (a ++ 0 :: b) x y z i ↔ Term3 (a ++ b) x y z i := by
  unfold Term3
  rw [get_ins_lt a b i (by omega), get_ins_lt a b (i + 1) (by omega), get_ins_lt a b (i + 2) (by omega)]

theorem term2_ins (a b : Bytes) (x y : UInt8) (i : Nat) (h : i + 2 ≤ a.length) :
    Term2 (a ++ 0 :: b) x y i ↔ Term2 (a ++ b) x y i := by
  unfold Term2
  rw [get_ins_lt a b i (by omega), get_ins_lt a b (i + 1) (by omega)]

theorem stateCData_loc (a b : Bytes) (h : H) (hs : h.s = a ++ b) (hp : h.pos ≤ h.s.length) :
    Loc a b (stateCData h) (stateCData (re a b h)) := by
  refine cdata_searches.loc not_name_text a b ?_ ?_ h hs hp
  · intro i wd ⟨hT, hw⟩ hlt
    exact ⟨(term3_ins a b _ _ _ i (by omega)).mpr hT, hw⟩
  · intro i wd j wd' ⟨hT, hw⟩ hlt hji ⟨hTj, hw'⟩
    exact ⟨(term3_ins a b _ _ _ j (by omega)).mp hTj, hw'⟩

theorem stateBogusComment2_loc (a b : Bytes) (h : H) (hs : h.s = a ++ b) (hp : h.pos ≤ h.s.length) :
    Loc a b (stateBogusComment2 h) (stateBogusComment2 (re a b h)) := by
  refine percent_searches.loc not_name_comment a b ?_ ?_ h hs hp
  · intro i wd ⟨hT, hw⟩ hlt
    exact ⟨(term2_ins a b _ _ i (by omega)).mpr hT, hw⟩
  · intro i wd j wd' ⟨hT, hw⟩ hlt hji ⟨hTj, hw'⟩
    exact ⟨(term2_ins a b _ _ j (by omega)).mp hTj, hw'⟩

theorem stateComment_loc (a b : Bytes) (h : H) (hs : h.s = a ++ b) (hp : h.pos ≤ h.s.length) :
    Loc a b (stateComment h) (stateComment (re a b h)) := by
  refine comment_searches.loc not_name_comment a b ?_ ?_ h hs hp
  · intro i wd hT hlt
    obtain ⟨n, ⟨h0, hz, hc, h62⟩, rfl⟩ := hT
    refine ⟨n, ⟨?_, ?_, ?_, ?_⟩, rfl⟩
    · rw [get_ins_lt a b i (by omega)]; exact h0
    · intro k hk; rw [get_ins_lt a b _ (by omega)]; exact hz k hk
    · rw [get_ins_lt a b _ (by omega)]; exact hc
    · rw [get_ins_lt a b _ (by omega)]; exact h62
  · intro i wd j wd' hT hlt hji hTj
    obtain ⟨n, ⟨h0, _, _, _⟩, rfl⟩ := hT
    obtain ⟨n', ⟨g0, gz, gc, g62⟩, rfl⟩ := hTj
    -- the NUL run after `j` ends before the dash at `i`
    have hn' : j + 1 + n' ≤ i := by
      apply Nat.le_of_not_lt
      intro hlt'
      have hk := gz (i - (j + 1)) (by omega)
      rw [show j + 1 + (i - (j + 1)) = i by omega, get_ins_lt a b i (by omega), h0] at hk
      cases hk
    refine ⟨n', ⟨?_, ?_, ?_, ?_⟩, rfl⟩
    · rw [← get_ins_lt a b j (by omega)]; exact g0
    · intro k hk; rw [← get_ins_lt a b _ (by omega)]; exact gz k hk
    · rw [← get_ins_lt a b _ (by omega)]; exact gc
    · rw [← get_ins_lt a b _ (by omega)]; exact g62

/-! ### steps that take place at or beyond the insertion point have nothing to say -/

/-- the step ends at or beyond offset `m` (or at end of input), and a name token it emits starts there or later -/
def Far (m : Nat) (r : M (Bool × H)) : Prop :=
  ∀ x, r = .ok (true, x) → (x.state = .eof ∨ m ≤ x.pos) ∧ (IsName x.tokType → m ≤ x.tokStart)

theorem Far.loc {a b : Bytes} {r r' : M (Bool × H)} (f : Far a.length r) : Loc a b r r' := by
  intro x hx
  obtain ⟨f1, f2⟩ := f x hx
  exact ⟨fun hb => f1.elim (fun he => absurd he hb.2) (fun hge => absurd hb.1 (by omega)),
    fun hst => absurd (f2 hst.1) (by have := hst.2.1; omega)⟩

theorem Ord.far {base c m : Nat} {h : H} {r : M (Bool × H)} (o : Ord base c h r) (hm : m ≤ base) : Far m r := by
  intro x hx
  obtain ⟨o1, o2, _⟩ := o x hx
  refine ⟨?_, fun _ => by omega⟩
  by_cases he : x.state = .eof
  · exact Or.inl he
  · unfold lbN at o2; rw [if_neg he] at o2
    exact Or.inr (by omega)

theorem Far.ok_false (m : Nat) (x : H) : Far m (.ok (false, x)) := by
  intro h1 hn
  simp only [Except.ok.injEq, Prod.mk.injEq] at hn
  exact absurd hn.1 (by decide)

theorem Far.ok_true {m : Nat} {x : H} (hp : m ≤ x.pos) (hn : ¬ IsName x.tokType) : Far m (.ok (true, x)) := by
  intro h1 hn'
  simp only [Except.ok.injEq, Prod.mk.injEq, true_and] at hn'
  subst hn'
  exact ⟨Or.inr hp, fun h => absurd h hn⟩

theorem Far.mono {m m' : Nat} {r : M (Bool × H)} (f : Far m r) (hm : m' ≤ m) : Far m' r := by
  intro x hx
  obtain ⟨f1, f2⟩ := f x hx
  exact ⟨f1.elim Or.inl (fun h => Or.inr (by omega)), fun hn => by have := f2 hn; omega⟩

theorem Far.ite {m : Nat} {c : Prop} [Decidable c] {x y : M (Bool × H)} (hx : Far m x) (hy : Far m y) : Far m (if c then x else y) := by
  by_cases hc : c
  · rw [if_pos hc]; exact hx
  · rw [if_neg hc]; exact hy

/-! ### white space before an attribute value -/

theorem spn_spn (p : UInt8 → Bool) : ∀ l : Bytes, spn p (l.drop (spn p l)) = 0
  | [] => rfl
  | x :: xs => by
    by_cases hx : p x = true
    · simp only [spn, hx, ↓reduceIte, List.drop_succ_cons]; exact spn_spn p xs
    · simp only [spn, hx, ↓reduceIte, List.drop_zero, Bool.false_eq_true]

/-- after skipping white space there is none left to skip: a state that starts by skipping white space may as
well be entered behind it -/
theorem skipWhite_idem (h : H) : skipWhite (skipWhite h).1 = skipWhite h := by
  unfold skipWhite
  simp only [← List.drop_drop, spn_spn]
  rfl

theorem skipWhite_re (a b : Bytes) (h : H) (hs : h.s = a ++ b) (hlt : (skipWhite h).1.pos < a.length) :
    skipWhite (re a b h) = (re a b (skipWhite h).1, (skipWhite h).2) := by
  unfold skipWhite at hlt ⊢
  simp only [hs] at hlt
  obtain ⟨e1, e2⟩ := scan_same isSkipWhite a b h.pos hlt
  simp only [re_s, re_pos, hs, e1, e2]
  rfl

theorem stateBeforeAttributeValue_loc (a b : Bytes) (h : H) (hs : h.s = a ++ b) (hp : h.pos ≤ h.s.length) :
    Loc a b (stateBeforeAttributeValue h) (stateBeforeAttributeValue (re a b h)) := by
  obtain ⟨e1, e2, e3, e4, e5⟩ := skipWhite_spec h hp
  by_cases hlt : (skipWhite h).1.pos < a.length
  · unfold stateBeforeAttributeValue
    rw [skipWhite_re a b h hs hlt]
    generalize skipWhite h = sw at e1 e2 e3 e4 e5 hlt ⊢
    obtain ⟨h1, ch⟩ := sw
    simp only at e1 e2 e3 e4 e5 hlt ⊢
    have hs1 : h1.s = a ++ b := by rw [e1, hs]
    cases ch with
    | none => exact Loc.ok_false a b _ _
    | some c =>
      have hq := fun q => stateAttributeValueQuote_loc q a b h1 hs1 (Or.inl (by rw [e1]; exact getElem?_some_lt e4.symm))
      exact Loc.ite (hq 34) (Loc.ite (hq 39) (Loc.ite (hq 96) (stateAttributeValueNoQuote_loc a b h1 hs1 hlt)))
  · have hsk : stateBeforeAttributeValue (skipWhite h).1 = stateBeforeAttributeValue h := by
      unfold stateBeforeAttributeValue; rw [skipWhite_idem]
    rw [← hsk]
    exact ((stateBeforeAttributeValue_ord (skipWhite h).1 (by rw [e1]; exact e3)).far (Nat.le_of_not_lt hlt)).loc

/-! ### `<!` dispatch: doctype / CDATA / comment / bogus comment -/

theorem win_get (s : Bytes) (q n k : Nat) (hk : k < n) : ((s.drop q).take n)[k]? = s[q + k]? := by
  rw [List.getElem?_take_of_lt hk, List.getElem?_drop]

theorem take_ins (a b : Bytes) (q n : Nat) (h : q + n ≤ a.length) :
    ((a ++ 0 :: b).drop q).take n = ((a ++ b).drop q).take n := by
  rw [drop_append_le a (0 :: b) q (by omega), drop_append_le a b q (by omega)]
  rw [List.take_append_of_le_length (by simp; omega), List.take_append_of_le_length (by simp; omega)]

theorem no_byte_doctype (w : Bytes) (k : Nat) (c : UInt8) (hk : w[k]? = some c) (hc : lowerAscii c ∉ doctypeLower) :
    (goLowerAscii w == doctypeLower) = false :=
  ne_doctype_at w k c hk fun h => hc (List.mem_of_getElem? h)

theorem no_byte_cdata (w : Bytes) (k : Nat) (c : UInt8) (hk : w[k]? = some c) (hc : c ∉ cdataOpen) : (w == cdataOpen) = false :=
  ne_cdata_at w k c hk fun h => hc (List.mem_of_getElem? h)

theorem no_gt_doctype (w : Bytes) (k : Nat) (hk : w[k]? = some 62) : (goLowerAscii w == doctypeLower) = false :=
  no_byte_doctype w k 62 hk (by decide)

theorem no_gt_cdata (w : Bytes) (k : Nat) (hk : w[k]? = some 62) : (w == cdataOpen) = false :=
  no_byte_cdata w k 62 hk (by decide)

/-- on the input with the NUL, `<!` followed (before the insertion point) by a byte that is neither a letter of
`doctype` nor of `[CDATA[` is not a doctype / CDATA section; the test for `--` reads the same two bytes -/
theorem markup_re (a b : Bytes) (h : H) (hs : h.s = a ++ b) (k : Nat) (c : UInt8) (hk7 : k < 7) (hkm : h.pos + k < a.length)
    (hc : (a ++ b)[h.pos + k]? = some c) (h1 : lowerAscii c ∉ doctypeLower) (h2 : c ∉ cdataOpen) (h22 : h.pos + 2 ≤ a.length) :
    stateMarkupDeclarationOpen (re a b h) =
      if ((h.s.drop h.pos).take 2 == [45, 45]) = true then stateComment (re a b { h with pos := h.pos + 2 })
      else stateBogusComment (re a b h) := by
  have hw : (((a ++ 0 :: b).drop h.pos).take 7)[k]? = some c := by
    rw [win_get _ _ _ _ hk7, get_ins_lt a b _ hkm]; exact hc
  have r2 : decide (h.s.length + 1 - h.pos ≥ 2) = true := by rw [hs]; simp; omega
  unfold stateMarkupDeclarationOpen
  simp only [re_s, re_pos, len_ins, no_byte_doctype _ k c hw h1, no_byte_cdata _ k c hw h2, take_ins a b h.pos 2 h22, r2, ← hs,
    Bool.and_false, Bool.false_eq_true, ↓reduceIte, Bool.true_and]
  rfl

theorem gt_token_res (h h1 : H) (ty : Ty) (x : H) (hx : x.state = .eof ∧ x.tokType = ty)
    (hn : (match indexByte (h.s.drop h.pos) 62 with
      | none => (.ok (true, x) : M (Bool × H))
      | some i => .ok (true, emit h h.pos i ty (h.pos + i + 1) .data)) = .ok (true, h1)) :
    h1.tokType = ty ∧ (h1.state ≠ .eof → ∃ i, h1.pos = h.pos + i + 1 ∧ h.s[h.pos + i]? = some 62) := by
  cases hi : indexByte (h.s.drop h.pos) 62 with
  | none =>
    rw [hi] at hn
    cases hn
    exact ⟨hx.2, fun hne => absurd hx.1 hne⟩
  | some i =>
    rw [hi] at hn
    cases hn
    have := ((indexByte_some_iff _ _ _).mp hi).1
    rw [List.getElem?_drop] at this
    exact ⟨rfl, fun _ => ⟨i, rfl, this⟩⟩

theorem stateBogusComment_res (h : H) (hp : h.pos ≤ h.s.length) (h1 : H) (hn : stateBogusComment h = .ok (true, h1)) :
    h1.tokType = .tagComment ∧ (h1.state ≠ .eof → ∃ i, h1.pos = h.pos + i + 1 ∧ h.s[h.pos + i]? = some 62) := by
  unfold stateBogusComment at hn
  simp only [offFrom_ok hp, bind, Except.bind, pure, Except.pure] at hn
  exact gt_token_res h h1 _ _ ⟨rfl, rfl⟩ hn

theorem stateDoctype_res (h : H) (hp : h.pos ≤ h.s.length) (h1 : H) (hn : stateDoctype h = .ok (true, h1)) :
    h1.tokType = .docType ∧ (h1.state ≠ .eof → ∃ i, h1.pos = h.pos + i + 1 ∧ h.s[h.pos + i]? = some 62) := by
  unfold stateDoctype at hn
  simp only [offFrom_ok hp, bind, Except.bind, pure, Except.pure] at hn
  exact gt_token_res h h1 _ _ ⟨rfl, rfl⟩ hn

theorem stateMarkupDeclarationOpen_loc (a b : Bytes) (h : H) (hs : h.s = a ++ b) (hp : h.pos ≤ h.s.length) :
    Loc a b (stateMarkupDeclarationOpen h) (stateMarkupDeclarationOpen (re a b h)) := by
  have hl : h.s.length = a.length + b.length := by rw [hs]; simp
  by_cases hq7 : h.pos + 7 ≤ a.length
  · -- both windows lie inside `a`
    unfold stateMarkupDeclarationOpen
    simp only [re_s, re_pos, take_ins a b h.pos 7 hq7, take_ins a b h.pos 2 (by omega), len_ins, ← hs]
    have r7 : decide (h.s.length - h.pos ≥ 7) = true := by simp; omega
    have r7' : decide (h.s.length + 1 - h.pos ≥ 7) = true := by simp; omega
    have r2 : decide (h.s.length - h.pos ≥ 2) = true := by simp; omega
    have r2' : decide (h.s.length + 1 - h.pos ≥ 2) = true := by simp; omega
    simp only [r7, r7', r2, r2', Bool.true_and]
    exact Loc.ite (stateDoctype_loc a b h hs hp)
      (Loc.ite (stateCData_loc a b { h with pos := h.pos + 7 } hs (by simp only [hl]; omega))
        (Loc.ite (stateComment_loc a b { h with pos := h.pos + 2 } hs (by simp only [hl]; omega))
          (stateBogusComment_loc a b h hs hp)))
  · -- the 7-byte window reaches the insertion point: a step that ends before it has met a `>` inside the window
    intro h1 hn
    unfold stateMarkupDeclarationOpen at hn
    simp only [] at hn
    split at hn
    · rename_i hc
      obtain ⟨hty, hgt⟩ := stateDoctype_res h hp h1 hn
      refine ⟨fun hb => ?_, fun hst => absurd hst.1 (hty ▸ not_name_doctype)⟩
      obtain ⟨i, hpos, h62⟩ := hgt hb.2
      have hi7 : i < 7 := by have := hb.1; omega
      have := no_gt_doctype ((h.s.drop h.pos).take 7) i (by rw [win_get _ _ _ _ hi7]; exact h62)
      simp [this] at hc
    · split at hn
      · rename_i _ hc
        have h7 : h.pos + 7 ≤ h.s.length := by
          simp only [Bool.and_eq_true, decide_eq_true_eq] at hc; have := hc.1; omega
        refine ⟨fun hb => ?_, fun hst => absurd hst.1 (cdata_searches.ty { h with pos := h.pos + 7 } h7 h1 hn ▸ not_name_text)⟩
        have := ((stateCData_ord { h with pos := h.pos + 7 } h7).far (Nat.le_refl _) h1 hn).1
        exact absurd hb (fun hb => this.elim (fun he => hb.2 he) (fun hge => by have := hb.1; simp at hge; omega))
      · split at hn
        · rename_i _ _ hc
          simp only [Bool.and_eq_true, decide_eq_true_eq, beq_iff_eq] at hc
          obtain ⟨h2r, hw2⟩ := hc
          have h2 : h.pos + 2 ≤ h.s.length := by omega
          refine ⟨fun hb => ?_, fun hst => absurd hst.1 (comment_searches.ty { h with pos := h.pos + 2 } h2 h1 hn ▸ not_name_comment)⟩
          have hge := ((stateComment_ord { h with pos := h.pos + 2 } h2).far (Nat.le_refl _) h1 hn).1
          have h2a : h.pos + 2 ≤ a.length := hge.elim (fun he => absurd he hb.2) (fun hge => by have := hb.1; simp at hge; omega)
          have hc0 : (a ++ b)[h.pos + 0]? = some 45 := by
            have := congrArg (fun l => l[0]?) hw2
            rw [win_get _ _ _ _ (by omega), hs] at this
            exact this
          rw [markup_re a b h hs 0 45 (by omega) (by omega) hc0 (by decide) (by decide) h2a, if_pos (by rw [hw2]; rfl)]
          exact (stateComment_loc a b { h with pos := h.pos + 2 } hs h2 h1 hn).1 hb
        · rename_i _ _ c3
          obtain ⟨hty, hgt⟩ := stateBogusComment_res h hp h1 hn
          refine ⟨fun hb => ?_, fun hst => absurd hst.1 (hty ▸ not_name_comment)⟩
          obtain ⟨i, hpos, h62⟩ := hgt hb.2
          have him : h.pos + i + 1 < a.length := by have := hb.1; omega
          rw [hs] at h62
          rw [markup_re a b h hs i 62 (by omega) (by omega) h62 (by decide) (by decide) (by omega), if_neg]
          · exact (stateBogusComment_loc a b h hs hp h1 hn).1 hb
          · intro hw2
            exact c3 (by simp only [hw2, Bool.and_true, decide_eq_true_eq]; omega)

/-! ### white space and slashes before an attribute name -/

theorem banLoop_re (a b : Bytes) : ∀ (fuel fuel' : Nat) (h : H), h.s = a ++ b → h.pos ≤ h.s.length →
    h.s.length - h.pos < fuel → h.s.length + 1 - h.pos < fuel' →
    ∀ h' ch sl, banLoop h fuel = .ok (h', ch, sl) → h'.pos < a.length →
      banLoop (re a b h) fuel' = .ok (re a b h', ch, sl) := by
  intro fuel
  induction fuel with
  | zero => intro fuel' h _ _ hf; omega
  | succ fuel ih =>
    intro fuel' h hs hp hf hf' h' ch sl hb hlt
    cases fuel' with
    | zero => omega
    | succ fuel' =>
    have hl : (a ++ b).length = a.length + b.length := by simp
    unfold banLoop at hb ⊢
    by_cases hpl : h.pos < h.s.length
    · have hpl' : (re a b h).pos < (re a b h).s.length := by simp only [re_pos, re_s, len_ins, ← hs]; omega
      simp only [hpl, hpl', ↓reduceIte] at hb ⊢
      obtain ⟨e1, e2, e3, e4, e5⟩ := skipWhite_spec h hp
      -- in every case below the white space ends at or before the final position, hence inside `a`
      have hre := skipWhite_re a b h hs
      generalize skipWhite h = sw at e1 e2 e3 e4 e5 hb hre
      obtain ⟨h1, c⟩ := sw
      simp only at e1 e2 e3 e4 e5 hb hre
      have hs1 : h1.s = a ++ b := by rw [e1, hs]
      cases c with
      | none =>
        simp only [Except.ok.injEq, Prod.mk.injEq] at hb
        obtain ⟨rfl, rfl, rfl⟩ := hb
        rw [hre hlt]
      | some c =>
        have h1lt : h1.pos < h.s.length := getElem?_some_lt e4.symm
        simp only [] at hb
        by_cases c47 : (c == 47) = true
        · simp only [c47, ↓reduceIte] at hb
          cases hg : h1.s[h1.pos + 1]? with
          | none =>
            -- the slash would be the last byte of the input, beyond `a`
            rw [hg] at hb
            simp only [Except.ok.injEq, Prod.mk.injEq] at hb
            have hle : h1.s.length ≤ h1.pos + 1 := List.getElem?_eq_none_iff.mp hg
            have : h'.pos = h1.pos + 1 := by rw [← hb.1]
            rw [hs1, hl] at hle
            omega
          | some c2 =>
            rw [hg] at hb
            simp only [] at hb
            by_cases c62 : (c2 != 62) = true
            · simp only [c62, ↓reduceIte] at hb
              obtain ⟨h2, ch2, sl2, hr, _, b2, _⟩ := banLoop_spec { h1 with pos := h1.pos + 1 } (by simp [e1]; omega) fuel (by simp [e1]; omega)
              have hp2 : h1.pos + 1 ≤ h'.pos := by rw [hr] at hb; cases hb; exact b2
              rw [hre (by omega)]
              simp only [c47, ↓reduceIte, re_s, re_pos, get_ins_lt a b _ (show h1.pos + 1 < a.length by omega), ← hs1, hg, c62]
              exact ih fuel' { h1 with pos := h1.pos + 1 } hs1 (by simp [e1]; omega) (by simp [e1]; omega) (by simp [e1]; omega) h' ch sl hb hlt
            · simp only [c62, Bool.false_eq_true, ↓reduceIte, Except.ok.injEq, Prod.mk.injEq] at hb
              obtain ⟨rfl, rfl, rfl⟩ := hb
              simp only at hlt
              rw [hre (by omega)]
              simp only [c47, ↓reduceIte, re_s, re_pos, get_ins_lt a b _ hlt, ← hs1, hg, c62, Bool.false_eq_true]
              rfl
        · simp only [c47, Bool.false_eq_true, ↓reduceIte, Except.ok.injEq, Prod.mk.injEq] at hb
          obtain ⟨rfl, rfl, rfl⟩ := hb
          rw [hre hlt]
          simp only [c47, Bool.false_eq_true, ↓reduceIte]
    · exfalso
      simp only [hpl, ↓reduceIte, Except.ok.injEq, Prod.mk.injEq] at hb
      have : h'.pos = h.pos := by rw [← hb.1]
      rw [hs, hl] at hpl
      omega
theorem selfClosing_far (d : Nat) (h : H) (hp : h.pos ≤ h.s.length) (h1 : 1 ≤ h.pos) : Far h.pos (stateSelfClosingStartTag d h) := by
  cases d with
  | zero => intro x hx; cases hx
  | succ d =>
    unfold stateSelfClosingStartTag
    by_cases hg : h.pos ≥ h.s.length
    · simp only [hg, ↓reduceIte, pure, Except.pure]; exact Far.ok_false _ _
    · have hlt : h.pos < h.s.length := by omega
      have h0 : ¬ (h.pos = 0) := by omega
      simp only [hg, h0, ↓reduceIte, at'_ok hlt, bind, Except.bind, pure, Except.pure]
      exact Far.ite (Far.ok_true (Nat.le_succ _) not_name_self) (((sc_ban_ord d).2 h hp).far (Nat.le_refl _))

theorem sc_ban_loc (a b : Bytes) : ∀ (d : Nat),
    (∀ h : H, h.s = a ++ b → h.pos ≤ h.s.length → 1 ≤ h.pos →
      Loc a b (stateSelfClosingStartTag d h) (stateSelfClosingStartTag d (re a b h))) ∧
    (∀ h : H, h.s = a ++ b → h.pos ≤ h.s.length →
      Loc a b (stateBeforeAttributeName d h) (stateBeforeAttributeName d (re a b h)))
  | 0 => ⟨fun h _ _ _ x hx => (by cases hx), fun h _ _ x hx => (by cases hx)⟩
  | d + 1 => by
    obtain ⟨ihS, ihB⟩ := sc_ban_loc a b d
    have hl : (a ++ b).length = a.length + b.length := by simp
    constructor
    · intro h hs hp h1
      by_cases hm : h.pos < a.length
      · unfold stateSelfClosingStartTag
        obtain ⟨hg', hat⟩ := at_re a b h hs hm
        have hlt : h.pos < h.s.length := by rw [hs, hl]; omega
        have hg : ¬ h.pos ≥ h.s.length := by omega
        have h0 : ¬ (h.pos = 0) := by omega
        simp only [hg, hg', h0, re_s, re_pos, ↓reduceIte, hat, at'_ok hlt, bind, Except.bind, pure, Except.pure]
        refine Loc.ite (Loc.same ?_) (ihB h hs hp)
        simp [emit]; omega
      · exact ((selfClosing_far (d + 1) h hp h1).mono (by omega)).loc
    · intro h hs hp
      unfold stateBeforeAttributeName
      obtain ⟨h', ch, slash, hr, a1, a2, a3, a4, a5⟩ := banLoop_spec h hp (h.s.length + 1) (by omega)
      have hs' : h'.s = a ++ b := by rw [a1, hs]
      have hp' : h'.pos ≤ h'.s.length := by rw [a1]; exact a3
      by_cases hm : h'.pos < a.length
      · have hr' := banLoop_re a b (h.s.length + 1) ((re a b h).s.length + 1) h hs hp (by omega)
          (by simp only [re_s, len_ins, ← hs]; omega) h' ch slash hr hm
        simp only [hr, hr', bind, Except.bind]
        cases slash with
        | true => exact ihS h' hs' hp' (by have := (a4 rfl).1; omega)
        | false =>
          cases ch with
          | none => exact Loc.ok_false a b _ _
          | some c =>
            simp only [re_s, re_pos, hs', offFrom_re a b h'.pos (hs' ▸ hp'), offFrom_ok (hs' ▸ hp'), pure, Except.pure,
              Bool.false_eq_true, ↓reduceIte]
            refine Loc.ite (Loc.same ?_) (stateAttributeName_loc a b h' hs' hm)
            simp [emit]; omega
      · refine Far.loc ?_
        simp only [hr, bind, Except.bind]
        cases slash with
        | true => exact (selfClosing_far d h' hp' (by have := (a4 rfl).1; omega)).mono (by omega)
        | false =>
          cases ch with
          | none => exact Far.ok_false _ _
          | some c =>
            have hlt : h'.pos < h'.s.length := by rw [a1]; exact getElem?_some_lt (a5 rfl).1.symm
            simp only [offFrom_ok hp', pure, Except.pure, Bool.false_eq_true, ↓reduceIte]
            refine Far.ite (Far.ok_true ?_ not_name_close) ((stateAttributeName_ord h' hlt).far (by omega))
            simp [emit]; omega

theorem stateAfterAttributeName_loc (a b : Bytes) (h : H) (hs : h.s = a ++ b) (hp : h.pos ≤ h.s.length) :
    Loc a b (stateAfterAttributeName h) (stateAfterAttributeName (re a b h)) := by
  obtain ⟨e1, e2, e3, e4, e5⟩ := skipWhite_spec h hp
  by_cases hlt : (skipWhite h).1.pos < a.length
  · unfold stateAfterAttributeName
    rw [skipWhite_re a b h hs hlt]
    generalize skipWhite h = sw at e1 e2 e3 e4 e5 hlt ⊢
    obtain ⟨h1, ch⟩ := sw
    simp only at e1 e2 e3 e4 e5 hlt ⊢
    have hs1 : h1.s = a ++ b := by rw [e1, hs]
    cases ch with
    | none => exact Loc.ok_false a b _ _
    | some c =>
      have hlt1 : h1.pos < h1.s.length := by rw [e1]; exact getElem?_some_lt e4.symm
      exact Loc.ite ((sc_ban_loc a b callDepth).1 { h1 with pos := h1.pos + 1 } hs1 hlt1 (Nat.le_add_left _ _))
        (Loc.ite (stateBeforeAttributeValue_loc a b { h1 with pos := h1.pos + 1 } hs1 hlt1)
          (Loc.ite (stateTagNameClose_loc a b h1 hs1 hlt1) (stateAttributeName_loc a b h1 hs1 hlt)))
  · have hsk : stateAfterAttributeName (skipWhite h).1 = stateAfterAttributeName h := by
      unfold stateAfterAttributeName; rw [skipWhite_idem]
    rw [← hsk]
    exact ((stateAfterAttributeName_ord (skipWhite h).1 (by rw [e1]; exact e3)).far (Nat.le_of_not_lt hlt)).loc

theorem stateAfterAttributeValueQuotedState_loc (a b : Bytes) (h : H) (hs : h.s = a ++ b) (hp : h.pos ≤ h.s.length) :
    Loc a b (stateAfterAttributeValueQuotedState h) (stateAfterAttributeValueQuotedState (re a b h)) := by
  by_cases hm : h.pos < a.length
  · have hlt : h.pos < h.s.length := by rw [hs]; simp; omega
    have hg : ¬ h.pos ≥ h.s.length := by omega
    obtain ⟨hg', hat⟩ := at_re a b h hs hm
    unfold stateAfterAttributeValueQuotedState
    simp only [hg, hg', re_s, re_pos, ↓reduceIte, hat, at'_ok hlt, offFrom_re a b h.pos (hs ▸ hp), offFrom_ok hp,
      bind, Except.bind, pure, Except.pure]
    refine Loc.ite ((sc_ban_loc a b callDepth).2 { h with pos := h.pos + 1 } hs hlt)
      (Loc.ite ((sc_ban_loc a b callDepth).1 { h with pos := h.pos + 1 } hs hlt (Nat.le_add_left _ _))
        (Loc.ite (Loc.same ?_) ((sc_ban_loc a b callDepth).2 h hs hp)))
    simp [emit]; omega
  · exact ((stateAfterAttributeValueQuotedState_ord h hp).far (Nat.le_of_not_lt hm)).loc

/-! ### element content: `<`, `</`, text -/

theorem tagOpen_far (d : Nat) (h : H) (h1 : 1 ≤ h.pos) : Far h.pos (stateTagOpen d h) := by
  cases d with
  | zero => intro x hx; cases hx
  | succ d =>
    unfold stateTagOpen
    by_cases hg : h.pos ≥ h.s.length
    · simp only [hg, ↓reduceIte, pure, Except.pure]; exact Far.ok_false _ _
    · have hlt : h.pos < h.s.length := by omega
      have h0 : (h.pos == 0) = false := by simp; omega
      simp only [hg, h0, ↓reduceIte, at'_ok hlt, bind, Except.bind, pure, Except.pure, Bool.false_eq_true]
      have hn := (stateTagName_ord h hlt).far (Nat.le_refl _)
      exact Far.ite ((stateMarkupDeclarationOpen_ord { h with pos := h.pos + 1 } hlt).far (Nat.le_succ _))
        (Far.ite (((data_trio_ord d).1 { h with pos := h.pos + 1, isClose := true } hlt).far (Nat.le_succ _))
          (Far.ite ((stateBogusComment_ord { h with pos := h.pos + 1 } hlt).far (Nat.le_succ _))
            (Far.ite ((stateBogusComment2_ord { h with pos := h.pos + 1 } hlt).far (Nat.le_succ _))
              (Far.ite hn (Far.ite hn (Far.ok_true (Nat.le_refl _) not_name_text))))))

theorem data_trio_loc (a b : Bytes) : ∀ (d : Nat),
    (∀ h : H, h.s = a ++ b → h.pos ≤ h.s.length → Loc a b (stateEndTagOpen d h) (stateEndTagOpen d (re a b h))) ∧
    (∀ h : H, h.s = a ++ b → h.pos ≤ h.s.length → 1 ≤ h.pos → Loc a b (stateTagOpen d h) (stateTagOpen d (re a b h))) ∧
    (∀ h : H, h.s = a ++ b → h.pos ≤ h.s.length → Loc a b (stateData d h) (stateData d (re a b h)))
  | 0 => ⟨fun h _ _ x hx => (by cases hx), fun h _ _ _ x hx => (by cases hx), fun h _ _ x hx => (by cases hx)⟩
  | d + 1 => by
    obtain ⟨ihE, ihT, ihD⟩ := data_trio_loc a b d
    refine ⟨?_, ?_, ?_⟩
    · intro h hs hp
      by_cases hm : h.pos < a.length
      · have hlt : h.pos < h.s.length := by rw [hs]; simp; omega
        have hg : ¬ h.pos ≥ h.s.length := by omega
        obtain ⟨hg', hat⟩ := at_re a b h hs hm
        unfold stateEndTagOpen
        simp only [hg, hg', re_s, re_pos, ↓reduceIte, hat, at'_ok hlt, bind, Except.bind]
        simp only [← re_s a b h, ← re_pos a b h]
        exact Loc.ite (ihD h hs hp) (Loc.ite (stateTagName_loc a b h hs hm) (stateBogusComment_loc a b { h with isClose := false } hs hp))
      · exact (((data_trio_ord (d + 1)).1 h hp).far (Nat.le_of_not_lt hm)).loc
    · intro h hs hp h1
      by_cases hm : h.pos < a.length
      · have hlt : h.pos < h.s.length := by rw [hs]; simp; omega
        have hg : ¬ h.pos ≥ h.s.length := by omega
        have h0 : (h.pos == 0) = false := by simp; omega
        obtain ⟨hg', hat⟩ := at_re a b h hs hm
        have hn := stateTagName_loc a b h hs hm
        unfold stateTagOpen
        simp only [hg, hg', h0, re_s, re_pos, ↓reduceIte, hat, at'_ok hlt, bind, Except.bind, pure, Except.pure, Bool.false_eq_true]
        refine Loc.ite (stateMarkupDeclarationOpen_loc a b { h with pos := h.pos + 1 } hs hlt)
          (Loc.ite (ihE { h with pos := h.pos + 1, isClose := true } hs hlt)
            (Loc.ite (stateBogusComment_loc a b { h with pos := h.pos + 1 } hs hlt)
              (Loc.ite (stateBogusComment2_loc a b { h with pos := h.pos + 1 } hs hlt)
                (Loc.ite hn (Loc.ite hn (Loc.same ?_))))))
        simp [emit]; omega
      · exact ((tagOpen_far (d + 1) h h1).mono (Nat.le_of_not_lt hm)).loc
    · intro h hs hp
      have hle : h.pos ≤ (a ++ b).length := by rw [← hs]; exact hp
      unfold stateData
      simp only [re_s, re_pos, offFrom_re a b h.pos hle, offFrom_ok hp, bind, Except.bind, pure, Except.pure]
      cases hi : indexByte (h.s.drop h.pos) 60 with
      | none =>
        intro h1 hn
        simp only [Except.ok.injEq, Prod.mk.injEq] at hn
        obtain ⟨_, rfl⟩ := hn
        exact ⟨fun hb => absurd rfl hb.2, fun hst => absurd hst.1 not_name_text⟩
      | some i =>
        have hlt : h.pos + i < h.s.length := by have := indexByte_lt hi; simp at this; omega
        simp only []
        by_cases hm : h.pos + i < a.length
        · rw [hs] at hi
          rw [indexByte_ins a b 60 h.pos i hi hm]
          refine Loc.ite (ihT (emit h h.pos i .dataText (h.pos + i + 1) .tagOpen) hs hlt (Nat.le_add_left _ _)) (Loc.same ?_)
          simp [emit]; omega
        · refine Far.loc (Far.ite (((data_trio_ord d).2.1 (emit h h.pos i .dataText (h.pos + i + 1) .tagOpen) hlt (Nat.le_add_left _ _)).far
            ?_) (Far.ok_true ?_ not_name_text)) <;> simp [emit] <;> omega

theorem next_loc (a b : Bytes) (h : H) (hs : h.s = a ++ b) (hi : Inv h) (h2 : h.state = .tagOpen → 1 ≤ h.pos) :
    Loc a b (next h) (next (re a b h)) := by
  obtain ⟨hp, i1, i2, i3⟩ := hi
  unfold next
  simp only [re_state]
  cases hst : h.state with
  | eof => exact Loc.ok_false a b _ _
  | data => exact (data_trio_loc a b dataDepth).2.2 h hs hp
  | tagOpen => exact (data_trio_loc a b dataDepth).2.1 h hs hp (h2 hst)
  | beforeAttrName => exact (sc_ban_loc a b callDepth).2 h hs hp
  | selfClosing => exact (sc_ban_loc a b callDepth).1 h hs hp (i1 hst)
  | tagNameClose => exact stateTagNameClose_loc a b h hs (i2 hst)
  | afterAttrName => exact stateAfterAttributeName_loc a b h hs hp
  | beforeAttrValue => exact stateBeforeAttributeValue_loc a b h hs hp
  | afterAttrValueQuoted => exact stateAfterAttributeValueQuotedState_loc a b h hs hp
  | valSingle => exact stateAttributeValueQuote_loc 39 a b h hs (Or.inr (i3 (Or.inl hst)))
  | valDouble => exact stateAttributeValueQuote_loc 34 a b h hs (Or.inr (i3 (Or.inr (Or.inl hst))))
  | valBack => exact stateAttributeValueQuote_loc 96 a b h hs (Or.inr (i3 (Or.inr (Or.inr hst))))

end LibInj.H5
