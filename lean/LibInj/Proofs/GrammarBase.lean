import LibInj.Proofs.SqlCase
import LibInj.Proofs.GrammarCheck
/-! C03: from a member of the canonical grammar that the kernel evaluated as detected (`Proofs/GrammarEval`)
to all of its letter-case variants, through C10. That no member has a case-exempt position follows from the
alphabet of the grammar, checked once. -/
namespace LibInj.Sqli
open LibInj LibInj.Spec.SqliGrammar

/-- the exempt positions of C10, strong form: no `\N`/`\n`, no `$`+letter, no `q'`+letter -/
def exemptAt (inp : Bytes) (i : Nat) : Bool :=
  (inp[i]? != some 92 || (inp[i+1]? != some 78 && inp[i+1]? != some 110)) &&
  (inp[i]? != some 36 || (inp[i+1]?).all (fun c => !isLetter c)) &&
  (!(inp[i]? == some 113 || inp[i]? == some 81) || inp[i+1]? != some 39 || (inp[i+2]?).all (fun c => !isLetter c))

def exemptFree (inp : Bytes) : Bool := (List.range inp.length).all (exemptAt inp)

/-- the model reports SQLi, and the member has no case-exempt position -/
def memberOK (s : Bytes) : Bool :=
  isDetected (isSQLi s) && exemptFree s && !contains (H5.L s) spPassword

theorem exemptFree_sound (inp : Bytes) (h : exemptFree inp = true) :
    (∀ i : Nat, inp[i]? = some (92 : UInt8) → inp[i+1]? ≠ some (78 : UInt8) ∧ inp[i+1]? ≠ some (110 : UInt8)) ∧
    (∀ i : Nat, inp[i]? = some (36 : UInt8) → ∀ c, inp[i+1]? = some c → isLetter c = false) ∧
    (∀ i : Nat, (inp[i]? = some (113 : UInt8) ∨ inp[i]? = some (81 : UInt8)) → inp[i+1]? = some (39 : UInt8) →
      ∀ c, inp[i+2]? = some c → isLetter c = false) := by
  have hat : ∀ i : Nat, inp[i]? ≠ none → exemptAt inp i = true := by
    intro i hi
    refine List.all_eq_true.mp h i (List.mem_range.mpr ?_)
    exact Nat.lt_of_not_le fun hge => hi (List.getElem?_eq_none hge)
  refine ⟨?_, ?_, ?_⟩
  · intro i hi
    have := hat i (by simp [hi])
    simpa [exemptAt, hi] using this
  · intro i hi c hc
    have := hat i (by simp [hi])
    simpa [exemptAt, hi, hc] using this
  · intro i hi hi1 c hc
    have := hat i (by rcases hi with h | h <;> simp [h])
    rcases hi with h | h <;> simpa [exemptAt, h, hi1, hc] using this

/-- **lift through C10**: a member the kernel evaluated as detected is detected in every letter case -/
theorem memberOK_any_case (a s' : Bytes) (h : memberOK a = true) (heq : H5.L a = H5.L s') :
    ∃ fp, isSQLi s' = .ok (true, fp) := by
  unfold memberOK at h
  simp only [Bool.and_eq_true, Bool.not_eq_true'] at h
  obtain ⟨⟨hd, he⟩, hsp⟩ := h
  obtain ⟨h1, h2, h3⟩ := exemptFree_sound a he
  rw [← isSQLi_of_lower_eq a s' heq h1 h2 h3 hsp]
  unfold isDetected at hd
  split at hd
  · rename_i fp hr; exact ⟨fp, hr⟩
  · cases hd

/-! ## The alphabet of the grammar has no byte that begins an exempt position -/

/-- not one of `\`, `$`, `q`, `Q` -/
def plainByte (c : UInt8) : Bool := c != 92 && c != 36 && c != 113 && c != 81

theorem exemptFree_of_plain (s : Bytes) (h : s.all plainByte = true) : exemptFree s = true := by
  refine List.all_eq_true.mpr fun i hi => ?_
  have hlt := List.mem_range.mp hi
  have hc := List.all_eq_true.mp h s[i] (List.getElem_mem hlt)
  simp only [plainByte, Bool.and_eq_true, bne_iff_ne, ne_eq] at hc
  obtain ⟨⟨⟨c1, c2⟩, c3⟩, c4⟩ := hc
  simp [exemptAt, List.getElem?_eq_getElem hlt, c1, c2, c3, c4]

theorem join_plain (sp : Bytes) (hsp : sp.all plainByte = true) :
    ∀ sk : List Bytes, sk.all (·.all plainByte) = true → (join sp sk).all plainByte = true
  | [], _ => rfl
  | [w], h => by simpa [join] using h
  | w :: v :: ws, h => by
    simp only [List.all_cons, Bool.and_eq_true] at h
    simp only [join, List.all_append, Bool.and_eq_true]
    exact ⟨⟨h.1, hsp⟩, join_plain sp hsp (v :: ws) (by simpa using h.2)⟩

theorem render_plain (pr : Bytes) (sk : List Bytes) (sp tl : Bytes) (h1 : pr.all plainByte = true)
    (h2 : sk.all (·.all plainByte) = true) (h3 : sp.all plainByte = true) (h4 : tl.all plainByte = true) :
    (render pr sk sp tl).all plainByte = true := by
  simp only [render, List.all_append, Bool.and_eq_true]
  exact ⟨⟨h1, join_plain sp h3 sk h2⟩, h4⟩

/-- every prefix, tail, separator and skeleton word of the grammar, and every truncation -/
def grammarParts : List Bytes :=
  prefixes ++ parenPrefixes ++ tails ++ seps ++ truncations ++ skeletons.flatten ++ parenSkeletons.flatten

theorem grammar_plain : ∀ w ∈ grammarParts, w.all plainByte = true :=
  fun w hw => List.all_eq_true.mp (by decide +kernel : grammarParts.all (·.all plainByte) = true) w hw

/-! ## From the evaluated check to `memberOK` -/

theorem memberOK_of_fires (s : Bytes) (h : fires s = true) (hp : s.all plainByte = true) : memberOK s = true := by
  simp only [fires, Bool.and_eq_true] at h
  simp only [memberOK, Bool.and_eq_true]
  exact ⟨⟨h.1, exemptFree_of_plain s hp⟩, h.2⟩

/-- an evaluated skeleton is detected with every prefix, tail and separator, in every letter case -/
theorem skeleton_detected (prefs : List Bytes) (sk : List Bytes)
    (h : tailsOK prefs sk = true ∧ sepsOK prefs sk = true)
    (hpr : ∀ p ∈ prefs, p ∈ grammarParts) (hsk : ∀ w ∈ sk, w ∈ grammarParts) :
    ∀ p ∈ prefs,
      (∀ t ∈ tails, ∀ s', CaseEq (render p sk [32] t) s' → ∃ fp, isSQLi s' = .ok (true, fp)) ∧
      (∀ sp ∈ seps, ∀ s', CaseEq (render p sk sp []) s' → ∃ fp, isSQLi s' = .ok (true, fp)) := by
  intro p hp
  have hpp := grammar_plain p (hpr p hp)
  have hkk : sk.all (·.all plainByte) = true := List.all_eq_true.mpr fun w hw => grammar_plain w (hsk w hw)
  constructor
  · intro t ht s' hc
    exact memberOK_any_case _ s' (memberOK_of_fires _ (List.all_eq_true.mp (List.all_eq_true.mp h.1 p hp) t ht)
      (render_plain p sk [32] t hpp hkk rfl (grammar_plain t (by simp [grammarParts, ht])))) hc
  · intro sp hsp s' hc
    exact memberOK_any_case _ s' (memberOK_of_fires _ (List.all_eq_true.mp (List.all_eq_true.mp h.2 p hp) sp hsp)
      (render_plain p sk sp [] hpp hkk (grammar_plain sp (by simp [grammarParts, hsp])) rfl)) hc

theorem forall_mem_of_index {α} (l : List α) (d : α) (P : α → Prop) (h : ∀ k < l.length, P ((l[k]?).getD d)) :
    ∀ a ∈ l, P a := by
  intro a ha
  obtain ⟨k, hk, rfl⟩ := List.mem_iff_getElem.mp ha
  simpa [List.getElem?_eq_getElem hk] using h k hk

end LibInj.Sqli
