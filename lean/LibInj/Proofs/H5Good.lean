import LibInj.Proofs.H5Term
/-! Totality, bounds and progress of every HTML5 state function (C02, C17): the case rules `stateX_cases`, the
postcondition `Good` of one state function, the invariant `Inv` with the measure `mu`, and `next_spec`. -/
namespace LibInj.H5
open LibInj

/-! ### one case rule for each state function that branches or calls another

To show `P (f h)` it suffices to show `P` of what each branch of `f` returns. The postconditions of this file
(`Good`), of `H5Order` (`Ord`) and of `NoLtEq` (`Shape`) are each proved by applying these. -/

theorem skipWhite_eq (h : H) (hp : h.pos ≤ h.s.length) :
    ∃ p, h.pos ≤ p ∧ p ≤ h.s.length ∧ skipWhite h = ({ h with pos := p }, h.s[p]?) := by
  have hs := spn_le isSkipWhite (h.s.drop h.pos)
  rw [List.length_drop] at hs
  exact ⟨_, Nat.le_add_right _ _, by omega, rfl⟩

theorem skipWhite_spec (h : H) (hp : h.pos ≤ h.s.length) :
    (skipWhite h).1.s = h.s ∧ h.pos ≤ (skipWhite h).1.pos ∧ (skipWhite h).1.pos ≤ h.s.length ∧
    (skipWhite h).2 = h.s[(skipWhite h).1.pos]? ∧ (skipWhite h).1.state = h.state := by
  obtain ⟨p, h1, h2, e⟩ := skipWhite_eq h hp
  rw [e]
  exact ⟨rfl, h1, h2, rfl, rfl⟩

/-- what the slash-skipping loop returns: it only moves forward and stays inside; when it reports a slash the byte at
the new position is `>` or the input has ended; otherwise it reports the byte at the new position -/
def BanRet (h : H) (r : M (H × Option UInt8 × Bool)) : Prop :=
  ∃ h' ch slash, r = .ok (h', ch, slash) ∧ h'.s = h.s ∧ h.pos ≤ h'.pos ∧ h'.pos ≤ h.s.length ∧
    (slash = true → (h.pos < h'.pos ∧ (h'.pos = h.s.length ∨ h.s[h'.pos]? = some 62))) ∧
    (slash = false → ch = h.s[h'.pos]? ∧ (ch = none ∨ ch ≠ some 47))

theorem BanRet.stop {h : H} {p : Nat} {ch : Option UInt8} (h1 : h.pos ≤ p) (h2 : p ≤ h.s.length) (hc : h.s[p]? = ch)
    (h47 : ch ≠ some 47) : BanRet h (.ok ({ h with pos := p }, ch, false)) :=
  ⟨_, _, _, rfl, rfl, h1, h2, nofun, fun _ => ⟨hc.symm, Or.inr h47⟩⟩

theorem BanRet.slash {h : H} {p : Nat} (h1 : h.pos ≤ p) (h2 : p < h.s.length)
    (hc : h.s[p + 1]? = none ∨ h.s[p + 1]? = some 62) : BanRet h (.ok ({ h with pos := p + 1 }, some 47, true)) :=
  ⟨_, _, _, rfl, rfl, Nat.le_succ_of_le h1, h2, fun _ => ⟨Nat.lt_succ_of_le h1,
    hc.imp_left fun hn => Nat.le_antisymm h2 (List.getElem?_eq_none_iff.mp hn)⟩, nofun⟩

theorem BanRet.mono {h : H} {p : Nat} {r : M (H × Option UInt8 × Bool)} (h1 : h.pos ≤ p)
    (g : BanRet { h with pos := p + 1 } r) : BanRet h r := by
  obtain ⟨h', ch, sl, hr, a1, a2, a3, a4, a5⟩ := g
  exact ⟨h', ch, sl, hr, a1, Nat.le_trans (Nat.le_succ_of_le h1) a2, a3,
    fun hs => ⟨Nat.lt_of_lt_of_le (Nat.lt_succ_of_le h1) a2, (a4 hs).2⟩, a5⟩

theorem banLoop_spec (h : H) (hp : h.pos ≤ h.s.length) : ∀ fuel, h.s.length - h.pos < fuel → BanRet h (banLoop h fuel) := by
  intro fuel
  induction fuel generalizing h with
  | zero => intro hf; omega
  | succ fuel ih =>
    intro hf
    unfold banLoop
    refine if_cases (fun hlt => ?_) fun hge => ?_
    · obtain ⟨p, e2, e3, e⟩ := skipWhite_eq h hp
      rw [e]
      simp only []
      cases hc : h.s[p]? with
      | none => exact BanRet.stop e2 e3 hc nofun
      | some c =>
        have hlt1 : p < h.s.length := getElem?_some_lt hc
        refine if_cases (fun h47 => ?_) fun h47 => ?_
        · -- a slash: look at the byte behind it
          show BanRet h (match h.s[p + 1]? with | some c2 => _ | none => _)
          cases hn : h.s[p + 1]? with
          | none => exact BanRet.slash e2 hlt1 (Or.inl hn)
          | some c2 =>
            refine if_cases (fun h62 => ?_) fun h62 => BanRet.slash e2 hlt1 (Or.inr ?_)
            · exact (ih { h with pos := p + 1 } hlt1 (by show h.s.length - (p + 1) < fuel; omega)).mono e2
            · rw [hn, eq_of_beq (by simpa using h62 : (c2 == 62) = true)]
        · exact BanRet.stop e2 e3 hc fun e => h47 (by rw [Option.some.inj e]; rfl)
    · exact BanRet.stop (Nat.le_refl _) hp (List.getElem?_eq_none (Nat.le_of_not_lt hge)) nofun

variable {P : M (Bool × H) → Prop}

theorem stateTagName_cases (h : H) (hp : h.pos ≤ h.s.length)
    (heof : P (ranOut h .tagNameOpen))
    (hwhite : ∀ p, h.pos ≤ p → p < h.s.length →
      P (.ok (true, emit h h.pos (p - h.pos) .tagNameOpen (p + 1) .beforeAttrName)))
    (hslash : ∀ p, h.pos ≤ p → p < h.s.length →
      P (.ok (true, emit h h.pos (p - h.pos) .tagNameOpen (p + 1) .selfClosing)))
    (hclose : ∀ p, h.pos ≤ p → p < h.s.length →
      P (.ok (true, emit { h with isClose := false } h.pos (p - h.pos) .tagClose (p + 1) .data)))
    (hgt : ∀ p, h.pos ≤ p → p < h.s.length →
      P (.ok (true, emit h h.pos (p - h.pos) .tagNameOpen p .tagNameClose))) :
    P (stateTagName h) := by
  unfold stateTagName
  simp only [offFrom_ok hp, bind, Except.bind, pure, Except.pure]
  split
  · exact heof
  · rename_i ch hc
    have h1 := Nat.le_add_right h.pos (spn tagNameByte (h.s.drop h.pos))
    have h2 := getElem?_some_lt hc
    exact if_cases (fun _ => hwhite _ h1 h2) fun _ => if_cases (fun _ => hslash _ h1 h2) fun _ =>
      if_cases (fun _ => hclose _ h1 h2) fun _ => hgt _ h1 h2

theorem stateAttributeName_cases (h : H) (hp : h.pos ≤ h.s.length)
    (heof : P (ranOutEnd h .attrName))
    (hwhite : ∀ p, h.pos < p → p < h.s.length →
      P (.ok (true, emit h h.pos (p - h.pos) .attrName (p + 1) .afterAttrName)))
    (hslash : ∀ p, h.pos < p → p < h.s.length →
      P (.ok (true, emit h h.pos (p - h.pos) .attrName (p + 1) .selfClosing)))
    (heq : ∀ p, h.pos < p → h.s[p]? = some 61 →
      P (.ok (true, emit h h.pos (p - h.pos) .attrName (p + 1) .beforeAttrValue)))
    (hgt : ∀ p, h.pos < p → p < h.s.length →
      P (.ok (true, emit h h.pos (p - h.pos) .attrName p .tagNameClose))) :
    P (stateAttributeName h) := by
  unfold stateAttributeName
  simp only [offFrom_ok hp, bind, Except.bind, pure, Except.pure]
  split
  · exact heof
  · rename_i ch hc
    have h1 : h.pos < h.pos + 1 + spn attrNameByte (h.s.drop (h.pos + 1)) := by omega
    have h2 := getElem?_some_lt hc
    exact if_cases (fun _ => hwhite _ h1 h2) fun _ => if_cases (fun _ => hslash _ h1 h2) fun _ =>
      if_cases (fun h61 => heq _ h1 (by rw [hc, eq_of_beq h61])) fun _ => hgt _ h1 h2

theorem stateAttributeValueNoQuote_cases (h : H) (hp : h.pos ≤ h.s.length)
    (heof : P (ranOut h .attrValue))
    (hwhite : ∀ p, h.pos ≤ p → p < h.s.length →
      P (.ok (true, emit h h.pos (p - h.pos) .attrValue (p + 1) .beforeAttrName)))
    (hgt : ∀ p, h.pos ≤ p → p < h.s.length →
      P (.ok (true, emit h h.pos (p - h.pos) .attrValue p .tagNameClose))) :
    P (stateAttributeValueNoQuote h) := by
  unfold stateAttributeValueNoQuote
  simp only [offFrom_ok hp, bind, Except.bind, pure, Except.pure]
  split
  · exact heof
  · rename_i ch hc
    have h1 := Nat.le_add_right h.pos (spn noQuoteByte (h.s.drop h.pos))
    have h2 := getElem?_some_lt hc
    exact if_cases (fun _ => hwhite _ h1 h2) fun _ => hgt _ h1 h2

theorem stateMarkupDeclarationOpen_cases (h : H)
    (hdoc : P (stateDoctype h))
    (hcdata : h.pos + 7 ≤ h.s.length → P (stateCData { h with pos := h.pos + 7 }))
    (hcom : h.pos + 2 ≤ h.s.length → P (stateComment { h with pos := h.pos + 2 }))
    (hbog : P (stateBogusComment h)) : P (stateMarkupDeclarationOpen h) := by
  unfold stateMarkupDeclarationOpen
  refine if_cases (fun _ => hdoc) fun _ => if_cases (fun hc => hcdata ?_) fun _ => if_cases (fun hc => hcom ?_) fun _ => hbog
  all_goals
    simp only [Bool.and_eq_true, decide_eq_true_eq] at hc
    omega

theorem stateAttributeValueQuote_cases (q : UInt8) (h : H) (hp : h.pos < h.s.length ∨ h.pos = 0)
    (hnone : ∀ p, h.pos ≤ p → p ≤ h.pos + 1 → p ≤ h.s.length → P (ranOut { h with pos := p } .attrValue))
    (hsome : ∀ p i, h.pos ≤ p → p ≤ h.pos + 1 → p + i < h.s.length →
      P (.ok (true, emit { h with pos := p } p i .attrValue (p + i + 1) .afterAttrValueQuoted))) :
    P (stateAttributeValueQuote q h) := by
  unfold stateAttributeValueQuote
  have key : ∀ p, h.pos ≤ p → p ≤ h.pos + 1 → p ≤ h.s.length →
      P (do
        let start ← offFrom ({ h with pos := p } : H).s ({ h with pos := p } : H).pos
        match indexByte (({ h with pos := p } : H).s.drop ({ h with pos := p } : H).pos) q with
        | none => return (true, { ({ h with pos := p } : H) with tokStart := start, tokLen := ({ h with pos := p } : H).s.length - ({ h with pos := p } : H).pos, tokType := .attrValue, state := .eof })
        | some i => return (true, emit ({ h with pos := p } : H) start i .attrValue (({ h with pos := p } : H).pos + i + 1) .afterAttrValueQuoted)) := by
    intro p h1 h2 h3
    show P (offFrom h.s p >>= _)
    rw [offFrom_ok h3]
    cases hi : indexByte (h.s.drop p) q with
    | none => exact hnone p h1 h2 h3
    | some i =>
      have := indexByte_lt hi
      rw [List.length_drop] at this
      exact hsome p i h1 h2 (by omega)
  by_cases h0 : h.pos > 0
  · rw [if_pos h0]
    exact key _ (Nat.le_succ _) (Nat.le_refl _) (by omega)
  · rw [if_neg h0]
    exact key _ (Nat.le_refl _) (Nat.le_succ _) (by omega)

theorem stateBeforeAttributeValue_cases (h : H) (hp : h.pos ≤ h.s.length)
    (hend : ∀ p, h.pos ≤ p → p ≤ h.s.length → P (.ok (false, { h with pos := p, state := .eof })))
    (hquote : ∀ q p, h.pos ≤ p → p < h.s.length → P (stateAttributeValueQuote q { h with pos := p }))
    (hnoq : ∀ p, h.pos ≤ p → p < h.s.length → P (stateAttributeValueNoQuote { h with pos := p })) :
    P (stateBeforeAttributeValue h) := by
  obtain ⟨p, h1, h2, e⟩ := skipWhite_eq h hp
  unfold stateBeforeAttributeValue
  rw [e]
  cases hc : h.s[p]? with
  | none => exact hend p h1 h2
  | some c =>
    have hlt := getElem?_some_lt hc
    exact if_cases (fun _ => hquote _ p h1 hlt) fun _ => if_cases (fun _ => hquote _ p h1 hlt) fun _ =>
      if_cases (fun _ => hquote _ p h1 hlt) fun _ => hnoq p h1 hlt

theorem stateAfterAttributeName_cases (h : H) (hp : h.pos ≤ h.s.length)
    (hend : ∀ p, h.pos ≤ p → p ≤ h.s.length → P (.ok (false, { h with pos := p })))
    (hslash : ∀ p, h.pos ≤ p → p < h.s.length → P (stateSelfClosingStartTag callDepth { h with pos := p + 1 }))
    (heq : ∀ p, h.pos ≤ p → p < h.s.length → h.s[p]? = some 61 → P (stateBeforeAttributeValue { h with pos := p + 1 }))
    (hgt : ∀ p, h.pos ≤ p → p < h.s.length → P (stateTagNameClose { h with pos := p }))
    (hattr : ∀ p, h.pos ≤ p → p < h.s.length → P (stateAttributeName { h with pos := p })) :
    P (stateAfterAttributeName h) := by
  obtain ⟨p, h1, h2, e⟩ := skipWhite_eq h hp
  unfold stateAfterAttributeName
  rw [e]
  cases hc : h.s[p]? with
  | none => exact hend p h1 h2
  | some c =>
    have hlt := getElem?_some_lt hc
    exact if_cases (fun _ => hslash p h1 hlt) fun _ =>
      if_cases (fun h61 => heq p h1 hlt (by rw [hc, eq_of_beq h61])) fun _ =>
      if_cases (fun _ => hgt p h1 hlt) fun _ => hattr p h1 hlt

theorem stateAfterAttributeValueQuotedState_cases (h : H)
    (hend : h.s.length ≤ h.pos → P (.ok (false, h)))
    (hwhite : h.pos < h.s.length → P (stateBeforeAttributeName callDepth { h with pos := h.pos + 1 }))
    (hslash : h.pos < h.s.length → P (stateSelfClosingStartTag callDepth { h with pos := h.pos + 1 }))
    (hgt : h.pos < h.s.length → P (.ok (true, emit h h.pos 1 .tagNameClose (h.pos + 1) .data)))
    (hattr : h.pos < h.s.length → P (stateBeforeAttributeName callDepth h)) :
    P (stateAfterAttributeValueQuotedState h) := by
  unfold stateAfterAttributeValueQuotedState
  refine if_cases hend fun hge => ?_
  have hlt : h.pos < h.s.length := Nat.lt_of_not_le hge
  rw [at'_ok hlt, offFrom_ok (Nat.le_of_lt hlt)]
  exact if_cases (fun _ => hwhite hlt) fun _ => if_cases (fun _ => hslash hlt) fun _ =>
    if_cases (fun _ => hgt hlt) fun _ => hattr hlt

theorem getElem?_of_beq {s : Bytes} {i : Nat} {c : UInt8} (hlt : i < s.length) (hc : (s[i] == c) = true) : s[i]? = some c := by
  rw [List.getElem?_eq_getElem hlt, eq_of_beq hc]

theorem stateSelfClosingStartTag_cases (d : Nat) (h : H) (h1 : 1 ≤ h.pos)
    (hend : h.s.length ≤ h.pos → P (.ok (false, h)))
    (hgt : h.pos < h.s.length → h.s[h.pos]? = some 62 →
      P (.ok (true, emit h (h.pos - 1) 2 .tagNameSelfClose (h.pos + 1) .data)))
    (hattr : h.pos < h.s.length → h.s[h.pos]? ≠ some 62 → P (stateBeforeAttributeName d h)) :
    P (stateSelfClosingStartTag (d + 1) h) := by
  unfold stateSelfClosingStartTag
  refine if_cases hend fun hge => ?_
  have hlt : h.pos < h.s.length := Nat.lt_of_not_le hge
  rw [at'_ok hlt, if_neg (Nat.ne_of_gt h1)]
  refine if_cases (fun hc => hgt hlt (getElem?_of_beq hlt hc)) fun hc => hattr hlt fun h62 => hc ?_
  rw [List.getElem?_eq_getElem hlt] at h62
  rw [Option.some.inj h62]; rfl

theorem stateBeforeAttributeName_cases (d : Nat) (h : H) (hp : h.pos ≤ h.s.length)
    (hslash : ∀ h1, h1.s = h.s → h.pos < h1.pos → h1.pos ≤ h.s.length →
      (h1.pos = h.s.length ∨ h.s[h1.pos]? = some 62) → P (stateSelfClosingStartTag d h1))
    (hend : ∀ h1, h1.s = h.s → h.pos ≤ h1.pos → h1.pos ≤ h.s.length → P (.ok (false, h1)))
    (hgt : ∀ h1, h1.s = h.s → h.pos ≤ h1.pos → h1.pos < h.s.length →
      P (.ok (true, emit h1 h1.pos 1 .tagNameClose (h1.pos + 1) .data)))
    (hattr : ∀ h1, h1.s = h.s → h.pos ≤ h1.pos → h1.pos < h.s.length → P (stateAttributeName h1)) :
    P (stateBeforeAttributeName (d + 1) h) := by
  obtain ⟨h1, ch, slash, hr, a1, a2, a3, a4, a5⟩ := banLoop_spec h hp (h.s.length + 1) (by omega)
  unfold stateBeforeAttributeName
  rw [hr]
  cases slash with
  | true => exact hslash h1 a1 (a4 rfl).1 a3 (a4 rfl).2
  | false =>
    cases ch with
    | none => exact hend h1 a1 a2 a3
    | some c =>
      have hlt : h1.pos < h.s.length := getElem?_some_lt (a5 rfl).1.symm
      refine if_cases (fun _ => ?_) fun _ => hattr h1 a1 a2 hlt
      show P (offFrom h1.s h1.pos >>= _)
      rw [offFrom_ok (by rw [a1]; exact Nat.le_of_lt hlt)]
      exact hgt h1 a1 a2 hlt

theorem stateEndTagOpen_cases (d : Nat) (h : H)
    (hend : h.s.length ≤ h.pos → P (.ok (false, h)))
    (hgt : h.pos < h.s.length → h.s[h.pos]? = some 62 → P (stateData d h))
    (hname : h.pos < h.s.length → P (stateTagName h))
    (hbog : h.pos < h.s.length → P (stateBogusComment { h with isClose := false })) :
    P (stateEndTagOpen (d + 1) h) := by
  unfold stateEndTagOpen
  refine if_cases hend fun hge => ?_
  have hlt : h.pos < h.s.length := Nat.lt_of_not_le hge
  rw [at'_ok hlt]
  exact if_cases (fun hc => hgt hlt (getElem?_of_beq hlt hc)) fun _ => if_cases (fun _ => hname hlt) fun _ => hbog hlt

theorem stateTagOpen_cases (d : Nat) (h : H)
    (hend : h.s.length ≤ h.pos → P (.ok (false, h)))
    (hmdo : h.pos < h.s.length → P (stateMarkupDeclarationOpen { h with pos := h.pos + 1 }))
    (hclose : h.pos < h.s.length → P (stateEndTagOpen d { h with pos := h.pos + 1, isClose := true }))
    (hbog : h.pos < h.s.length → P (stateBogusComment { h with pos := h.pos + 1 }))
    (hbog2 : h.pos < h.s.length → P (stateBogusComment2 { h with pos := h.pos + 1 }))
    (hname : h.pos < h.s.length → P (stateTagName h))
    (hdata : h.pos = 0 → P (stateData d h))
    (htext : 0 < h.pos → h.pos < h.s.length → P (.ok (true, emit h (h.pos - 1) 1 .dataText h.pos .data))) :
    P (stateTagOpen (d + 1) h) := by
  unfold stateTagOpen
  refine if_cases hend fun hge => ?_
  have hlt : h.pos < h.s.length := Nat.lt_of_not_le hge
  rw [at'_ok hlt]
  exact if_cases (fun _ => hmdo hlt) fun _ => if_cases (fun _ => hclose hlt) fun _ => if_cases (fun _ => hbog hlt) fun _ =>
    if_cases (fun _ => hbog2 hlt) fun _ => if_cases (fun _ => hname hlt) fun _ => if_cases (fun _ => hname hlt) fun _ =>
    if_cases (fun h0 => hdata (eq_of_beq h0)) fun h0 => htext (Nat.pos_of_ne_zero fun e => h0 (by rw [e]; rfl)) hlt

theorem stateData_cases (d : Nat) (h : H) (hp : h.pos ≤ h.s.length)
    (hnone : (60 : UInt8) ∉ h.s.drop h.pos → P (.ok (h.s.length - h.pos != 0,
      { h with tokStart := h.pos, tokLen := h.s.length - h.pos, tokType := .dataText, state := .eof })))
    (hlt : h.s[h.pos]? = some 60 → P (stateTagOpen d (emit h h.pos 0 .dataText (h.pos + 1) .tagOpen)))
    (htext : ∀ i, 0 < i → h.pos + i < h.s.length → h.s[h.pos + i]? = some 60 →
      P (.ok (true, emit h h.pos i .dataText (h.pos + i + 1) .tagOpen))) :
    P (stateData (d + 1) h) := by
  unfold stateData
  rw [offFrom_ok hp]
  cases hi : indexByte (h.s.drop h.pos) 60 with
  | none => exact hnone ((indexByte_none_iff _ _).mp hi)
  | some i =>
    have hat := ((indexByte_some_iff _ _ _).mp hi).1
    rw [List.getElem?_drop] at hat
    cases i with
    | zero => exact hlt hat
    | succ i => exact htext (i + 1) (Nat.succ_pos i) (getElem?_some_lt hat) hat

/-! ### the postcondition `Good` -/

/-- a state leaves `pos` unadvanced only when it hands over to one of these -/
def Resting (st : St) : Prop := st = .eof ∨ st = .tagNameClose

/-- state-dependent facts the next step relies on: `selfClosing`/`tagOpen` are entered after a byte
was consumed (they look at `pos-1`), `tagNameClose` is entered at a `>` inside the input, and the three
quoted-value start states are initial states only -/
def StOK (h : H) : Prop :=
  (h.state = .selfClosing → 1 ≤ h.pos) ∧ (h.state = .tagOpen → 1 ≤ h.pos) ∧
  (h.state = .tagNameClose → h.pos < h.s.length) ∧
  h.state ≠ .valSingle ∧ h.state ≠ .valDouble ∧ h.state ≠ .valBack

/-- postcondition shared by all state functions: no error; the input is untouched; `pos` stays inside
and never moves back; an emitted token lies inside the input; an emitting step either advances `pos`
or hands over to a state of lower rank (`eof`, `tagNameClose`). -/
def Good (h : H) (r : M (Bool × H)) : Prop :=
  ∃ b h', r = .ok (b, h') ∧ h'.s = h.s ∧ h'.pos ≤ h.s.length ∧ h.pos ≤ h'.pos ∧
    (b = true → h'.tokStart + h'.tokLen ≤ h.s.length ∧ h'.tokStart ≤ h'.tokStart + h'.tokLen ∧
      (h.pos < h'.pos ∨ Resting h'.state) ∧ StOK h')

/-- an emitted token inside the input, after which the scan offset has advanced; what is asked of the next state can
be decided when the state is given -/
theorem Good.emit {h h1 : H} {a l p : Nat} {ty : Ty} {st : St} (ha : a + l ≤ h.s.length ∧ h.pos < p ∧ p ≤ h.s.length)
    (hs : h1.s = h.s := by rfl)
    (hst : st ≠ .tagNameClose ∧ st ≠ .valSingle ∧ st ≠ .valDouble ∧ st ≠ .valBack := by decide) :
    Good h (.ok (true, H5.emit h1 a l ty p st)) := by
  refine ⟨true, _, rfl, hs, ha.2.2, Nat.le_of_lt ha.2.1, fun _ => ⟨ha.1, Nat.le_add_right _ _, Or.inl ha.2.1, ?_⟩⟩
  simp only [StOK, H5.emit, hst.1, hst.2.1, hst.2.2.1, hst.2.2.2, false_imp_iff, ne_eq, not_false_eq_true, and_true]
  omega

/-- a token that ends at a `>` still to be read: the offset need not advance, `tagNameClose` will -/
theorem Good.emit_close {h h1 : H} {a l p : Nat} {ty : Ty} (ha : a + l ≤ h.s.length ∧ h.pos ≤ p ∧ p < h.s.length)
    (hs : h1.s = h.s := by rfl) : Good h (.ok (true, H5.emit h1 a l ty p .tagNameClose)) := by
  refine ⟨true, _, rfl, hs, Nat.le_of_lt ha.2.2, ha.2.1, fun _ => ⟨ha.1, Nat.le_add_right _ _, Or.inr (Or.inr rfl), ?_⟩⟩
  simp [StOK, H5.emit, hs, ha.2.2]

theorem Good.ranOut (h : H) (ty : Ty) (hp : h.pos ≤ h.s.length) : Good h (H5.ranOut h ty) := by
  refine ⟨true, _, rfl, rfl, hp, Nat.le_refl _, fun _ => ⟨?_, Nat.le_add_right _ _, Or.inr (Or.inl rfl), by simp [StOK]⟩⟩
  show h.pos + (h.s.length - h.pos) ≤ h.s.length
  omega

theorem Good.ranOutEnd (h : H) (ty : Ty) (hp : h.pos ≤ h.s.length) : Good h (H5.ranOutEnd h ty) := by
  refine ⟨true, _, rfl, rfl, Nat.le_refl _, hp, fun _ => ⟨?_, Nat.le_add_right _ _, Or.inr (Or.inl rfl), by simp [StOK, H5.emit]⟩⟩
  show h.pos + (h.s.length - h.pos) ≤ h.s.length
  omega

theorem Good.ok_false {h h1 : H} (hs : h1.s = h.s) (h1p : h.pos ≤ h1.pos) (h2p : h1.pos ≤ h.s.length) :
    Good h (.ok (false, h1)) :=
  ⟨false, h1, rfl, hs, h2p, h1p, fun hb => absurd hb (by decide)⟩

/-- as `Good`, but an emitting step may also leave `pos` where it is and hand over to `data`
(only `stateTagOpen` does: the `<` it re-emits as text was consumed by the preceding `stateData`) -/
def GoodT (h : H) (r : M (Bool × H)) : Prop :=
  ∃ b h', r = .ok (b, h') ∧ h'.s = h.s ∧ h'.pos ≤ h.s.length ∧ h.pos ≤ h'.pos ∧
    (b = true → h'.tokStart + h'.tokLen ≤ h.s.length ∧ h'.tokStart ≤ h'.tokStart + h'.tokLen ∧
      (h.pos < h'.pos ∨ Resting h'.state ∨ h'.state = .data) ∧ StOK h')

theorem Good.toT {h : H} {r : M (Bool × H)} (g : Good h r) : GoodT h r := by
  obtain ⟨b, h', hr, h1, h2, h3, h4⟩ := g
  refine ⟨b, h', hr, h1, h2, h3, fun hb => ?_⟩
  obtain ⟨a1, a2, a3, a4⟩ := h4 hb
  exact ⟨a1, a2, a3.imp_right Or.inl, a4⟩

/-- a caller that went on from `h0` without a token inherits the callee's postcondition -/
theorem Good.mono {h0 h : H} {r : M (Bool × H)} (g : Good h r) (hs : h.s = h0.s) (hp : h0.pos ≤ h.pos) : Good h0 r := by
  obtain ⟨b, h', hr, h1, h2, h3, h4⟩ := g
  refine ⟨b, h', hr, by rw [h1, hs], by rw [← hs]; exact h2, by omega, fun hb => ?_⟩
  obtain ⟨a1, a2, a3, a4⟩ := h4 hb
  exact ⟨by rw [← hs]; exact a1, a2, a3.imp_left (by omega), a4⟩

/-- as `mono`, but the caller has itself consumed at least one byte -/
theorem GoodT.mono_lt {h0 h : H} {r : M (Bool × H)} (g : GoodT h r) (hs : h.s = h0.s) (hp : h0.pos < h.pos) : Good h0 r := by
  obtain ⟨b, h', hr, h1, h2, h3, h4⟩ := g
  refine ⟨b, h', hr, by rw [h1, hs], by rw [← hs]; exact h2, by omega, fun hb => ?_⟩
  obtain ⟨a1, a2, a3, a4⟩ := h4 hb
  exact ⟨by rw [← hs]; exact a1, a2, Or.inl (by omega), a4⟩

theorem Good.mono_lt {h0 h : H} {r : M (Bool × H)} (g : Good h r) (hs : h.s = h0.s) (hp : h0.pos < h.pos) : Good h0 r :=
  g.toT.mono_lt hs hp

theorem Good.any_flag {h h' : H} (b : Bool) (g : Good h (.ok (true, h'))) : Good h (.ok (b, h')) := by
  obtain ⟨_, _, hr, h1, h2, h3, h4⟩ := g
  cases hr
  exact ⟨b, h', rfl, h1, h2, h3, fun _ => h4 rfl⟩

/-- the advancing form of `Good`: an emitting step strictly advances `pos` -/
def GoodAdv (h : H) (r : M (Bool × H)) : Prop :=
  ∃ h', r = .ok (true, h') ∧ h'.s = h.s ∧ h'.pos ≤ h.s.length ∧ h.pos < h'.pos ∧
    h'.tokStart + h'.tokLen ≤ h.s.length ∧ StOK h'

theorem GoodAdv.good {h : H} {r : M (Bool × H)} (g : GoodAdv h r) : Good h r := by
  obtain ⟨h', hr, a1, a2, a3, a4, a5⟩ := g
  exact ⟨true, h', hr, a1, a2, Nat.le_of_lt a3, fun _ => ⟨a4, Nat.le_add_right _ _, Or.inl a3, a5⟩⟩

theorem Searched.good {h : H} {ty : Ty} {r : M (Bool × H)} (hp : h.pos ≤ h.s.length) (g : Searched h ty r) :
    Good h r := by
  rcases g with rfl | rfl | ⟨i, w, h1, h2, h3, rfl⟩
  · exact Good.ranOut h ty hp
  · exact Good.ranOutEnd h ty hp
  · exact Good.emit (by omega)

theorem stateBogusComment_good (h : H) (hp : h.pos ≤ h.s.length) : Good h (stateBogusComment h) :=
  (gt_searched h hp).1.good hp

theorem stateDoctype_good (h : H) (hp : h.pos ≤ h.s.length) : Good h (stateDoctype h) :=
  (gt_searched h hp).2.good hp

theorem stateBogusComment2_good (h : H) (hp : h.pos ≤ h.s.length) : Good h (stateBogusComment2 h) :=
  (bogus2Loop_searched h hp _ _ (Nat.le_refl _) hp (Nat.lt_succ_of_le (Nat.sub_le _ _))).good hp

theorem cdataLoop_good (h : H) (hp : h.pos ≤ h.s.length) :
    ∀ fuel pos, h.pos ≤ pos → pos ≤ h.s.length → h.s.length - pos < fuel → Good h (cdataLoop h pos fuel) :=
  fun fuel pos h1 h2 hf => (cdataLoop_searched h hp fuel pos h1 h2 hf).good hp

theorem stateCData_good (h : H) (hp : h.pos ≤ h.s.length) : Good h (stateCData h) :=
  cdataLoop_good h hp _ _ (Nat.le_refl _) hp (by omega)

theorem stateComment_good (h : H) (hp : h.pos ≤ h.s.length) : Good h (stateComment h) :=
  (commentLoop_searched h hp _ _ (Nat.le_refl _) hp (Nat.lt_succ_of_le (Nat.sub_le _ _))).good hp

theorem stateMarkupDeclarationOpen_good (h : H) (hp : h.pos ≤ h.s.length) :
    Good h (stateMarkupDeclarationOpen h) :=
  stateMarkupDeclarationOpen_cases (P := Good h) h (stateDoctype_good h hp)
    (fun h7 => (stateCData_good { h with pos := h.pos + 7 } h7).mono rfl (Nat.le_add_right _ _))
    (fun h2 => (stateComment_good { h with pos := h.pos + 2 } h2).mono rfl (Nat.le_add_right _ _))
    (stateBogusComment_good h hp)

theorem stateTagNameClose_adv (h : H) (hp : h.pos < h.s.length) : GoodAdv h (stateTagNameClose h) := by
  unfold stateTagNameClose
  rw [offFrom_ok (Nat.le_of_lt hp)]
  refine ⟨_, rfl, rfl, hp, Nat.lt_succ_self _, hp, ?_⟩
  simp [StOK]
  split <;> simp

theorem stateTagName_good (h : H) (hp : h.pos < h.s.length) : Good h (stateTagName h) :=
  stateTagName_cases (P := Good h) h (Nat.le_of_lt hp) (Good.ranOut h _ (Nat.le_of_lt hp))
    (fun p h1 h2 => Good.emit (by omega))
    (fun p h1 h2 => Good.emit (by omega))
    (fun p h1 h2 => Good.emit (by omega))
    (fun p h1 h2 => Good.emit_close (by omega))

theorem stateAttributeName_good (h : H) (hp : h.pos < h.s.length) : Good h (stateAttributeName h) :=
  stateAttributeName_cases (P := Good h) h (Nat.le_of_lt hp) (Good.ranOutEnd h _ (Nat.le_of_lt hp))
    (fun p h1 h2 => Good.emit (by omega))
    (fun p h1 h2 => Good.emit (by omega))
    (fun p h1 h2 => have := getElem?_some_lt h2; Good.emit (by omega))
    (fun p h1 h2 => Good.emit_close (by omega))

theorem stateAttributeValueNoQuote_good (h : H) (hp : h.pos ≤ h.s.length) : Good h (stateAttributeValueNoQuote h) :=
  stateAttributeValueNoQuote_cases (P := Good h) h hp (Good.ranOut h _ hp)
    (fun p h1 h2 => Good.emit (by omega))
    (fun p h1 h2 => Good.emit_close (by omega))

theorem stateAttributeValueQuote_good (q : UInt8) (h : H) (hp : h.pos < h.s.length ∨ h.pos = 0) :
    Good h (stateAttributeValueQuote q h) :=
  stateAttributeValueQuote_cases (P := Good h) q h hp
    (fun p h1 _ h2 => (Good.ranOut { h with pos := p } _ h2).mono rfl h1)
    (fun p i h1 _ h2 => Good.emit (by omega))

theorem stateBeforeAttributeValue_good (h : H) (hp : h.pos ≤ h.s.length) : Good h (stateBeforeAttributeValue h) :=
  stateBeforeAttributeValue_cases (P := Good h) h hp (fun _ h1 h2 => Good.ok_false rfl h1 h2)
    (fun q p h1 h2 => (stateAttributeValueQuote_good q { h with pos := p } (Or.inl h2)).mono rfl h1)
    (fun p h1 h2 => (stateAttributeValueNoQuote_good { h with pos := p } (Nat.le_of_lt h2)).mono rfl h1)

theorem SC_base (d : Nat) (h : H) (hp : h.pos ≤ h.s.length) (h1 : 1 ≤ h.pos)
    (hgt : h.pos ≥ h.s.length ∨ h.s[h.pos]? = some 62) : Good h (stateSelfClosingStartTag (d + 1) h) :=
  stateSelfClosingStartTag_cases (P := Good h) d h h1 (fun _ => Good.ok_false rfl (Nat.le_refl _) hp) (fun hlt _ => Good.emit (by omega))
    (fun hlt hne => absurd (hgt.resolve_left (Nat.not_le_of_lt hlt)) hne)

theorem BAN_good (d : Nat) (h : H) (hp : h.pos ≤ h.s.length) : Good h (stateBeforeAttributeName (d + 2) h) := by
  refine stateBeforeAttributeName_cases (P := Good h) (d + 1) h hp (fun h1 e hlt hle hgt => ?_) (fun h1 e => Good.ok_false e)
    (fun h1 e h1p hlt => ?_) (fun h1 e h1p hlt => ?_)
  · rw [← e] at hle hgt
    exact (SC_base d h1 hle (by omega) (hgt.imp_left fun e => Nat.le_of_eq e.symm)).mono_lt e hlt
  · exact Good.emit (by omega) e
  · rw [← e] at hlt
    exact (stateAttributeName_good h1 hlt).mono e h1p

theorem SC_good (d : Nat) (h : H) (hp : h.pos ≤ h.s.length) (h1 : 1 ≤ h.pos) :
    Good h (stateSelfClosingStartTag (d + 3) h) :=
  stateSelfClosingStartTag_cases (P := Good h) (d + 2) h h1 (fun _ => Good.ok_false rfl (Nat.le_refl _) hp) (fun hlt _ => Good.emit (by omega))
    (fun _ _ => BAN_good d h hp)

theorem stateAfterAttributeName_good (h : H) (hp : h.pos ≤ h.s.length) : Good h (stateAfterAttributeName h) :=
  stateAfterAttributeName_cases (P := Good h) h hp (fun _ h1 h2 => Good.ok_false rfl h1 h2)
    (fun p h1 h2 => (SC_good 1 { h with pos := p + 1 } h2 (Nat.succ_pos _)).mono_lt rfl (Nat.lt_succ_of_le h1))
    (fun p h1 h2 _ => (stateBeforeAttributeValue_good { h with pos := p + 1 } h2).mono_lt rfl (Nat.lt_succ_of_le h1))
    (fun p h1 h2 => (stateTagNameClose_adv { h with pos := p } h2).good.mono rfl h1)
    (fun p h1 h2 => (stateAttributeName_good { h with pos := p } h2).mono rfl h1)

theorem stateAfterAttributeValueQuotedState_good (h : H) (hp : h.pos ≤ h.s.length) :
    Good h (stateAfterAttributeValueQuotedState h) :=
  stateAfterAttributeValueQuotedState_cases (P := Good h) h (fun _ => Good.ok_false rfl (Nat.le_refl _) hp)
    (fun hlt => (BAN_good 2 { h with pos := h.pos + 1 } hlt).mono_lt rfl (Nat.lt_succ_self _))
    (fun hlt => (SC_good 1 { h with pos := h.pos + 1 } hlt (Nat.succ_pos _)).mono_lt rfl (Nat.lt_succ_self _))
    (fun hlt => Good.emit (by omega)) (fun _ => BAN_good 2 h hp)

/-- `stateData` when the next byte is not `<` (no call into `stateTagOpen`) -/
theorem stateData_noLT (d : Nat) (h : H) (hp : h.pos ≤ h.s.length) (hne : h.s[h.pos]? ≠ some 60) :
    Good h (stateData (d + 1) h) :=
  stateData_cases (P := Good h) d h hp (fun _ => (Searched.good hp (Or.inl rfl)).any_flag _) (fun hlt => absurd hlt hne)
    (fun i h0 hlt _ => Good.emit (by omega))

theorem stateEndTagOpen_good (d : Nat) (h : H) (hp : h.pos ≤ h.s.length) : Good h (stateEndTagOpen (d + 2) h) :=
  stateEndTagOpen_cases (P := Good h) (d + 1) h (fun _ => Good.ok_false rfl (Nat.le_refl _) hp)
    (fun _ hgt => stateData_noLT d h hp (by rw [hgt]; decide)) (stateTagName_good h)
    (fun _ => (stateBogusComment_good { h with isClose := false } hp).mono rfl (Nat.le_refl _))

/-- `stateTagOpen`, given what `stateData` does when called back at offset 0 -/
theorem stateTagOpen_goodT (d : Nat) (h : H) (hp : h.pos ≤ h.s.length)
    (hdata : h.pos = 0 → Good h (stateData (d + 2) h)) : GoodT h (stateTagOpen (d + 3) h) :=
  have adv {h1 : H} {r : M (Bool × H)} (g : Good h1 r) (hs : h1.s = h.s) (hlt : h.pos < h1.pos) : GoodT h r :=
    (g.mono_lt hs hlt).toT
  stateTagOpen_cases (P := GoodT h) (d + 2) h (fun _ => (Good.ok_false rfl (Nat.le_refl _) hp).toT)
    (fun hlt => adv (stateMarkupDeclarationOpen_good { h with pos := h.pos + 1 } hlt) rfl (Nat.lt_succ_self _))
    (fun hlt => adv (stateEndTagOpen_good d { h with pos := h.pos + 1, isClose := true } hlt) rfl (Nat.lt_succ_self _))
    (fun hlt => adv (stateBogusComment_good { h with pos := h.pos + 1 } hlt) rfl (Nat.lt_succ_self _))
    (fun hlt => adv (stateBogusComment2_good { h with pos := h.pos + 1 } hlt) rfl (Nat.lt_succ_self _))
    (fun hlt => (stateTagName_good h hlt).toT) (fun h0 => (hdata h0).toT)
    (fun h0 hlt => ⟨true, _, rfl, by simp [emit, StOK, Resting]; omega⟩)

theorem stateData_good (d : Nat) (h : H) (hp : h.pos ≤ h.s.length) : Good h (stateData (d + 4) h) :=
  stateData_cases (P := Good h) (d + 3) h hp (fun _ => (Searched.good hp (Or.inl rfl)).any_flag _)
    (fun hlt => (stateTagOpen_goodT d (emit h h.pos 0 .dataText (h.pos + 1) .tagOpen) (getElem?_some_lt hlt) (fun h0 => absurd h0 (Nat.succ_ne_zero _))).mono_lt rfl
      (Nat.lt_succ_self _))
    (fun i h0 hlt _ => Good.emit (by omega))

/-- `stateTagOpen` at any position (depth 5 is enough: at most `tagOpen → data → tagOpen → endTagOpen → data`) -/
theorem stateTagOpen_good (d : Nat) (h : H) (hp : h.pos ≤ h.s.length) : GoodT h (stateTagOpen (d + 5) h) :=
  stateTagOpen_goodT (d + 2) h hp fun _ => stateData_good d h hp

/-! ## The dispatcher, progress measure, and totality of the token loop -/

/-- what `next` relies on about the state it is entered in -/
def Inv (h : H) : Prop :=
  h.pos ≤ h.s.length ∧ (h.state = .selfClosing → 1 ≤ h.pos) ∧ (h.state = .tagNameClose → h.pos < h.s.length) ∧
  ((h.state = .valSingle ∨ h.state = .valDouble ∨ h.state = .valBack) → h.pos = 0)

theorem init_inv (s : Bytes) (ctx : Nat) : Inv (init s ctx) := by
  unfold init Inv
  simp
  split <;> simp

def rank : St → Nat
  | .eof => 0
  | .tagNameClose => 1
  | .data => 2
  | _ => 3

/-- progress measure: lexicographic in (bytes left, rank of the state) -/
def mu (h : H) : Nat := 3 * (h.s.length - h.pos) + rank h.state

theorem next_cases (h : H) (hi : Inv h) :
    (h.state = .eof ∧ next h = .ok (false, h)) ∨
    (h.state = .tagNameClose ∧ GoodAdv h (next h)) ∨
    (h.state = .tagOpen ∧ GoodT h (next h)) ∨
    (rank h.state ≥ 2 ∧ Good h (next h)) := by
  obtain ⟨hp, i1, i2, i3⟩ := hi
  have low {r : M (Bool × H)} (hs : 2 ≤ rank h.state) (g : Good h r) :
      (h.state = .eof ∧ r = .ok (false, h)) ∨ (h.state = .tagNameClose ∧ GoodAdv h r) ∨
      (h.state = .tagOpen ∧ GoodT h r) ∨ (rank h.state ≥ 2 ∧ Good h r) := Or.inr (Or.inr (Or.inr ⟨hs, g⟩))
  unfold next
  split
  · rename_i hs; exact Or.inl ⟨hs, rfl⟩
  · rename_i hs; exact low (by simp [hs, rank]) (stateData_good 2 h hp)
  · rename_i hs; exact Or.inr (Or.inr (Or.inl ⟨hs, stateTagOpen_good 1 h hp⟩))
  · rename_i hs; exact low (by simp [hs, rank]) (BAN_good 2 h hp)
  · rename_i hs; exact low (by simp [hs, rank]) (SC_good 1 h hp (i1 hs))
  · rename_i hs; exact Or.inr (Or.inl ⟨hs, stateTagNameClose_adv h (i2 hs)⟩)
  · rename_i hs; exact low (by simp [hs, rank]) (stateAfterAttributeName_good h hp)
  · rename_i hs; exact low (by simp [hs, rank]) (stateBeforeAttributeValue_good h hp)
  · rename_i hs; exact low (by simp [hs, rank]) (stateAfterAttributeValueQuotedState_good h hp)
  · rename_i hs; exact low (by simp [hs, rank]) (stateAttributeValueQuote_good 39 h (Or.inr (i3 (Or.inl hs))))
  · rename_i hs; exact low (by simp [hs, rank]) (stateAttributeValueQuote_good 34 h (Or.inr (i3 (Or.inr (Or.inl hs)))))
  · rename_i hs; exact low (by simp [hs, rank]) (stateAttributeValueQuote_good 96 h (Or.inr (i3 (Or.inr (Or.inr hs)))))

theorem rank_le (st : St) : rank st ≤ 3 := by cases st <;> simp [rank]

theorem inv_of_stOK (h h' : H) (hs : h'.s = h.s) (hp : h'.pos ≤ h.s.length) (ho : StOK h') : Inv h' := by
  obtain ⟨o1, o2, o3, o4, o5, o6⟩ := ho
  refine ⟨by rw [hs]; exact hp, o1, o3, ?_⟩
  rintro (hv | hv | hv)
  · exact absurd hv o4
  · exact absurd hv o5
  · exact absurd hv o6

theorem mu_lt (h h' : H) (hs : h'.s = h.s) (hp' : h'.pos ≤ h.s.length) (hle : h.pos ≤ h'.pos)
    (hcase : (h.pos < h'.pos ∧ 1 ≤ rank h.state) ∨ (rank h'.state < rank h.state)) : mu h' < mu h := by
  unfold mu
  rw [hs]
  have := rank_le h'.state
  omega

theorem next_spec (h : H) (hi : Inv h) :
    ∃ b h', next h = .ok (b, h') ∧ h'.s = h.s ∧
      (b = true → mu h' < mu h ∧ Inv h' ∧ h'.tokStart + h'.tokLen ≤ h.s.length ∧ h.pos ≤ h'.pos) := by
  have hpos := hi.1
  rcases next_cases h hi with ⟨hs, hr⟩ | ⟨hs, g⟩ | ⟨hs, g⟩ | ⟨hs, g⟩
  · exact ⟨false, h, hr, rfl, by simp⟩
  · obtain ⟨h', hr, a1, a2, a3, a4, a5⟩ := g
    refine ⟨true, h', hr, a1, fun _ => ⟨?_, inv_of_stOK h h' a1 a2 a5, a4, by omega⟩⟩
    exact mu_lt h h' a1 a2 (by omega) (Or.inl ⟨a3, by rw [hs]; simp [rank]⟩)
  · obtain ⟨b, h', hr, a1, a2, a3, a4⟩ := g
    refine ⟨b, h', hr, a1, fun hb => ?_⟩
    obtain ⟨c1, c2, c3, c4⟩ := a4 hb
    refine ⟨?_, inv_of_stOK h h' a1 a2 c4, c1, a3⟩
    have hr3 : rank h.state = 3 := by rw [hs]; rfl
    apply mu_lt h h' a1 a2 a3
    rcases c3 with c3 | c3 | c3
    · exact Or.inl ⟨c3, by omega⟩
    · right; rcases c3 with c3 | c3 <;> (rw [c3, hr3]; simp [rank])
    · right; rw [c3, hr3]; simp [rank]
  · obtain ⟨b, h', hr, a1, a2, a3, a4⟩ := g
    refine ⟨b, h', hr, a1, fun hb => ?_⟩
    obtain ⟨c1, c2, c3, c4⟩ := a4 hb
    refine ⟨?_, inv_of_stOK h h' a1 a2 c4, c1, a3⟩
    apply mu_lt h h' a1 a2 a3
    rcases c3 with c3 | c3
    · exact Or.inl ⟨c3, by omega⟩
    · right
      have e0 : rank St.eof = 0 := rfl
      have e1 : rank St.tagNameClose = 1 := rfl
      rcases c3 with c3 | c3 <;> (rw [c3]; omega)

def TokOK (n : Nat) (ts : List Tok) : Prop := ∀ t ∈ ts, t.off + t.len ≤ n

theorem tokensLoop_total (h : H) (hi : Inv h) :
    ∀ fuel, mu h < fuel → ∃ ts, tokensLoop h fuel = .ok ts ∧ TokOK h.s.length ts ∧ ts.length ≤ mu h := by
  intro fuel
  induction fuel generalizing h with
  | zero => intro hf; omega
  | succ fuel ih =>
    intro hf
    unfold tokensLoop
    obtain ⟨b, h', hr, hs, hb⟩ := next_spec h hi
    simp only [hr, bind, Except.bind, pure, Except.pure]
    cases b with
    | false => exact ⟨[], rfl, by simp [TokOK], by simp⟩
    | true =>
      obtain ⟨hmu, hinv, htok, _⟩ := hb rfl
      obtain ⟨ts, hts, hok, hlen⟩ := ih h' hinv (by omega)
      simp only [↓reduceIte, hts]
      refine ⟨_, rfl, ?_, by simp; omega⟩
      intro t ht
      rcases List.mem_cons.mp ht with rfl | ht
      · simpa using htok
      · have := hok t ht; rw [hs] at this; exact this

theorem mu_init_le (s : Bytes) (ctx : Nat) : mu (init s ctx) ≤ 3 * s.length + 3 := by
  have := rank_le (init s ctx).state
  show 3 * (s.length - 0) + _ ≤ _
  omega

/-- **C02/C17 (tokenizer part).** From every start context the tokenizer returns (no index or slice
error, no fuel or depth exhaustion with recursion depths 4 and 6 and loop fuel `3|s|+4`), every token
lies inside the input, and there are at most `3|s|+3` of them. -/
theorem tokens_total (s : Bytes) (ctx : Nat) :
    ∃ ts, tokens s ctx = .ok ts ∧ TokOK s.length ts ∧ ts.length ≤ 3 * s.length + 3 := by
  have hmu := mu_init_le s ctx
  obtain ⟨ts, h1, h2, h3⟩ := tokensLoop_total (init s ctx) (init_inv s ctx) (tokFuel s.length) (Nat.lt_succ_of_le hmu)
  exact ⟨ts, h1, h2, Nat.le_trans h3 hmu⟩

end LibInj.H5
