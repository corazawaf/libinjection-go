import LibInj.Bytes
/-! ASCII case re-assignment and the case-folding primitives. -/
namespace LibInj

/-- `s'` is a re-assignment of the case of the ASCII letters of `s` -/
def CaseEq (s s' : Bytes) : Prop := s.map lowerAscii = s'.map lowerAscii

theorem CaseEq.refl (s : Bytes) : CaseEq s s := rfl
theorem CaseEq.symm {s s' : Bytes} (h : CaseEq s s') : CaseEq s' s := Eq.symm h

theorem CaseEq.length {s s' : Bytes} (h : CaseEq s s') : s.length = s'.length := by
  have := congrArg List.length h
  simpa using this

theorem caseEq_cons {a b : UInt8} {s t : Bytes} : CaseEq (a :: s) (b :: t) ↔ lowerAscii a = lowerAscii b ∧ CaseEq s t := by
  simp [CaseEq]

theorem forall_byte (p : UInt8 → Bool) (h : (List.range 256).all (fun n => p n.toUInt8) = true) (c : UInt8) : p c = true := by
  have := List.all_eq_true.mp h c.toNat (List.mem_range.mpr c.toNat_lt)
  simpa using this

theorem upper_split (x : UInt8) (hx : isUpperAscii x = true) :
    ∃ n, n < 26 ∧ x = n.toUInt8 + 65 ∧ x + 32 = n.toUInt8 + 97 := by
  simp only [isUpperAscii, Bool.and_eq_true, decide_eq_true_eq, UInt8.le_iff_toNat_le] at hx
  have h65 : (65 : UInt8).toNat = 65 := rfl
  have h90 : (90 : UInt8).toNat = 90 := rfl
  rw [h65, h90] at hx
  refine ⟨x.toNat - 65, by omega, ?_, ?_⟩
  · apply UInt8.toNat_inj.mp
    simp [UInt8.toNat_add]
    omega
  · apply UInt8.toNat_inj.mp
    simp [UInt8.toNat_add]
    omega

theorem caseBlind {β : Type} [BEq β] [LawfulBEq β] (p : UInt8 → β)
    (h : (List.range 26).all (fun n => p (n.toUInt8 + 97) == p (n.toUInt8 + 65)) = true) (x : UInt8) :
    p (lowerAscii x) = p x := by
  unfold lowerAscii
  split
  · rename_i hx
    obtain ⟨n, hn, e1, e2⟩ := upper_split x hx
    rw [e2, e1]
    exact beq_iff_eq.mp (List.all_eq_true.mp h n (List.mem_range.mpr hn))
  · rfl

theorem upper_lower (c : UInt8) : upperAscii (lowerAscii c) = upperAscii c := caseBlind _ (by decide +kernel) c

theorem lower_nonzero (a : UInt8) : (lowerAscii a != 0) = (a != 0) := caseBlind (· != 0) (by decide +kernel) a

theorem letter_lower (c : UInt8) :
    (isLowerAscii (lowerAscii c) || isUpperAscii (lowerAscii c)) = (isLowerAscii c || isUpperAscii c) :=
  caseBlind (fun c => isLowerAscii c || isUpperAscii c) (by decide +kernel) c

theorem goUpper_cons_generic (c : UInt8) (t : Bytes)
    (h1 : ¬ (c = 0xC4 ∧ ∃ t', t = 0xB1 :: t')) (h2 : ¬ (c = 0xC5 ∧ ∃ t', t = 0xBF :: t')) :
    goUpper (c :: t) = upperAscii c :: goUpper t := by
  rw [goUpper.eq_def]
  split
  · rename_i h; cases h
  · rename_i h; cases h; exact absurd ⟨rfl, _, rfl⟩ h1
  · rename_i h; cases h; exact absurd ⟨rfl, _, rfl⟩ h2
  · rename_i h; cases h; rfl

theorem lower_fixed_of_nonletter (a : UInt8) (h : (isLowerAscii a || isUpperAscii a) = false) : lowerAscii a = a := by
  rw [Bool.or_eq_false_iff] at h
  simp [lowerAscii, h.2]

theorem eq_of_lower_eq_nonletter (c k : UInt8) (hk : (isLowerAscii k || isUpperAscii k) = false) (h : lowerAscii c = k) :
    c = k := by
  rw [← lower_fixed_of_nonletter c (by rw [← letter_lower, h]; exact hk), h]

theorem goUpper_lower (s : Bytes) : goUpper (s.map lowerAscii) = goUpper s := by
  fun_induction goUpper s with
  | case1 => rfl
  | case2 t ih => rw [← ih]; rfl
  | case3 t ih => rw [← ih]; rfl
  | case4 c t h1 h2 ih =>
    -- a generic step stays generic after lowering: a special pair would have been one before
    rw [List.map_cons, goUpper_cons_generic, upper_lower, ih]
    · rintro ⟨hc, t', ht⟩
      cases t with
      | nil => cases ht
      | cons d u =>
        rw [List.map_cons] at ht
        exact h1 u (eq_of_lower_eq_nonletter c _ (by decide) hc) (by rw [eq_of_lower_eq_nonletter d _ (by decide) (List.cons.inj ht).1])
    · rintro ⟨hc, t', ht⟩
      cases t with
      | nil => cases ht
      | cons d u =>
        rw [List.map_cons] at ht
        exact h2 u (eq_of_lower_eq_nonletter c _ (by decide) hc) (by rw [eq_of_lower_eq_nonletter d _ (by decide) (List.cons.inj ht).1])

theorem goUpper_caseEq : ∀ (n : Nat) (s s' : Bytes), s.length ≤ n → CaseEq s s' → goUpper s = goUpper s' := by
  intro n s s' _ h
  rw [← goUpper_lower s, ← goUpper_lower s', h]

theorem goUpper_length_le : ∀ (n : Nat) (s : Bytes), s.length ≤ n → (goUpper s).length ≤ s.length := by
  intro n s _
  clear ‹s.length ≤ n›
  fun_induction goUpper s <;> simp only [List.length_cons, List.length_nil] <;> omega

theorem goUpper_case_invariant (s s' : Bytes) (h : CaseEq s s') : goUpper s = goUpper s' :=
  goUpper_caseEq s.length s s' (Nat.le_refl _) h

theorem stripNul_lower (s : Bytes) : (stripNul s).map lowerAscii = stripNul (s.map lowerAscii) := by
  unfold stripNul
  rw [List.filter_map]
  congr 2
  funext a
  exact (lower_nonzero a).symm

theorem stripNul_caseEq (s s' : Bytes) (h : CaseEq s s') : CaseEq (stripNul s) (stripNul s') := by
  unfold CaseEq at h ⊢
  rw [stripNul_lower, stripNul_lower, h]

theorem stripNul_insert (a b : Bytes) : stripNul (a ++ 0 :: b) = stripNul (a ++ b) := by
  simp [stripNul, List.filter_append]

end LibInj
