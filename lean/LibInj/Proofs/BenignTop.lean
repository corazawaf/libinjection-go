import LibInj.Proofs.BenignLex
import LibInj.Proofs.FpTable
import LibInj.Proofs.FingerprintOK
/-! C14: a text of the grammar `Txt` is never reported as SQLi: `fold`'s main loop keeps the scanner on the text and the
window benign (`TInv`), the fingerprint is a word over the seven benign classes, and no such word is blacklisted. -/
namespace LibInj.Sqli
open LibInj LibInj.Tables

/-- the invariant of `fold`'s main loop on a text -/
def TInv (f : FS) : Prop := FInv f ∧ ScanOK f.s ∧ BenignTok f.lastComment

theorem TInv.binv {f : FS} (h : TInv f) : BInv f := ⟨h.2.1.benign, h.2.2⟩

theorem TInv.vars {f : FS} (h : TInv f) {p l : Nat} (hl : l ≤ p) (hp : p ≤ 6) : TInv { f with pos := p, left := l } :=
  ⟨⟨h.1.1, hl, hp, h.1.2.2.2⟩, h.2⟩

theorem tinv_special (f : FS) (hp : TInv f) : ∃ f', foldSpecial f = .ok f' ∧ TInv f' := by
  obtain ⟨hf, ⟨_, htxt, hq, hd, hh, hb⟩, hlc⟩ := hp
  obtain ⟨tv, p, l, h, hw, hmem, hl, hpp, _⟩ := foldSpecial_rebuild f hf
  exact ⟨_, h, (rebuild_ok hf hw f.s.folds hl (Nat.le_trans hpp hf.2.2.1)).1,
    ⟨hw.1, htxt, hq, hd, hh, fun t ht => hb t (hmem t ht)⟩, hlc⟩

theorem tinv_fetch (f : FS) (k : Nat) (hp : TInv f) : ∃ f', fetch f k (fetchFuel f.s.input.length) = .ok f' ∧ TInv f' := by
  obtain ⟨f', h, hf', _⟩ := fetch_ok' k _ f hp.1 (fetch_fuel_ok f)
  exact ⟨f', h, hf', fetch_txt k _ f f' hp.2.1 hp.2.2 h⟩

/-- what one iteration does to a benign window: nothing but moving tokens and the cursor -/
def BenignStep : Step → Prop
  | .cont f' => TInv f'
  | .brk f' => TInv f'
  | .ret _ _ => False

theorem foldBody_benign (f : FS) (hp : TInv f) : ∃ st, foldBody f = .ok st ∧ BenignStep st := by
  unfold foldBody
  obtain ⟨f1, h1, p1⟩ := tinv_special f hp
  simp only [h1, bind, Except.bind, pure, Except.pure]
  by_cases cb : (!f1.more || decide (f1.left ≥ maxTokens)) = true
  · rw [if_pos cb]
    exact ⟨_, rfl, p1.vars (Nat.le_refl _) p1.1.2.2.1⟩
  rw [if_neg cb]
  obtain ⟨f2, h2, p2⟩ := tinv_fetch f1 2 p1
  simp only [h2]
  by_cases c2 : f2.pos - f2.left < 2
  · rw [if_pos c2]
    exact ⟨_, rfl, p2.vars (Nat.le_refl _) p2.1.2.2.1⟩
  rw [if_neg c2, foldTwo_benign f2 p2.1 p2.binv (by omega)]
  simp only []
  obtain ⟨f4, h4, p4⟩ := tinv_fetch f2 3 p2
  have hp6 := p4.1.2.2.1
  simp only [h4]
  by_cases c3 : f4.pos - f4.left < 3
  · rw [if_pos c3]
    exact ⟨_, rfl, p4.vars (Nat.le_refl _) hp6⟩
  rw [if_neg c3]
  rcases foldThree_benign f4 p4.1 p4.binv (by omega) with h3 | h3
  · rw [h3]
    exact ⟨_, rfl, p4.vars (by omega) hp6⟩
  · rw [h3]
    exact ⟨_, rfl, p4.vars (Nat.zero_le _) (by omega)⟩

theorem foldLoop_benign : ∀ (fuel : Nat) (f : FS) (n : Nat) (f' : FS), TInv f → foldLoop f fuel = .ok (n, f') → TInv f' ∧ n ≤ 5 := by
  intro fuel
  induction fuel with
  | zero => intro f n f' _ h; simp [foldLoop] at h
  | succ fuel ih =>
    intro f n f' hp h
    unfold foldLoop at h
    obtain ⟨st, hst, hbs⟩ := foldBody_benign f hp
    simp only [hst, bind, Except.bind, pure, Except.pure] at h
    cases st with
    | cont f1 => exact ih f1 n f' hbs h
    | ret k f1 => exact absurd hbs (by simp [BenignStep])
    | brk f1 =>
      have p1 : TInv f1 := hbs
      have hc99 : (f1.lastComment.cat == 99) = false := p1.2.2.ne 99
      simp only [hc99, Bool.and_false, Bool.false_eq_true, ↓reduceIte, Except.ok.injEq, Prod.mk.injEq] at h
      obtain ⟨hn, hf'⟩ := h
      rw [← hf', ← hn]
      refine ⟨p1, ?_⟩
      rw [maxTokens_eq]
      split <;> omega

/-- the leading skip loop on the text stops at its first token: a benign token is no comment, parenthesis or unary operator -/
theorem skipLoop_txt (fuel : Nat) (s : State) (more : Bool) (s' : State) (hs : ScanOK s) (hc : s.cur = 0)
    (h : skipLoop s fuel = .ok (more, s')) : ScanOK s' := by
  cases fuel with
  | zero => simp [skipLoop] at h
  | succ fuel =>
    unfold skipLoop at h
    obtain ⟨m1, s1, hr, hs1, hcur⟩ := tokenize_txt s hs (by omega)
    simp only [hr, bind, Except.bind, pure, Except.pure] at h
    cases m1 with
    | false =>
      simp only [Bool.not_false, ↓reduceIte, Except.ok.injEq, Prod.mk.injEq] at h
      rw [← h.2]; exact hs1
    | true =>
      obtain ⟨t, hget, hbt⟩ := hs1.get (i := s1.cur) (by omega)
      simp only [Bool.not_true, Bool.false_eq_true, ↓reduceIte, hget, g_ok, ok_or, hbt.ne 99, hbt.ne 40, hbt.ne 116,
        Bool.or_self, isUnaryOp_benign t hbt, Bool.not_false, Except.ok.injEq, Prod.mk.injEq] at h
      rw [← h.2]; exact hs1

theorem fold_txt (input : Bytes) (flags : Nat) (hq : NoQ (sqliInit input flags).flags) (htxt : Txt input) :
    ∃ n s', fold (sqliInit input flags) = .ok (n, s') ∧ n ≤ 5 ∧ SInv s' ∧ ScanOK s' := by
  obtain ⟨n, s', h, hs', _⟩ := fold_ok (sqliInit input flags) (sinv_init input flags) (init_empty input flags)
  refine ⟨n, s', h, ?_⟩
  have hscan0 : ScanOK ({ sqliInit input flags with cur := 0 } : State) :=
    ⟨by simp [sqliInit], by simpa [sqliInit] using htxt, hq, rfl, rfl, fun t ht => by
      simp only [sqliInit, List.mem_replicate] at ht
      rw [ht.2]; exact .of_cat 0 rfl⟩
  obtain ⟨more, s1, h1, hsinv1, _⟩ := skipLoop_ok ((sqliInit input flags).input.length + 2) { sqliInit input flags with cur := 0 }
    ⟨(sinv_init input flags).1, (sinv_init input flags).2.1, (sinv_init input flags).2.2⟩ rfl (init_empty input flags)
    (by show (sqliInit input flags).input.length - 0 + 1 < _; omega)
  have hsc1 := skipLoop_txt _ _ more s1 hscan0 rfl h1
  unfold fold at h
  simp only [h1, bind, Except.bind, pure, Except.pure] at h
  cases more with
  | false =>
    simp only [Bool.not_false, ↓reduceIte, Except.ok.injEq, Prod.mk.injEq] at h
    obtain ⟨rfl, rfl⟩ := h
    exact ⟨by omega, hs', hsc1⟩
  | true =>
    simp only [Bool.not_true, Bool.false_eq_true, ↓reduceIte] at h
    cases hl : foldLoop { s := s1, pos := 1, left := 0, more := true, lastComment := {} } (foldFuel s1.input.length) with
    | error e => simp [hl] at h
    | ok r2 =>
      obtain ⟨n2, f2⟩ := r2
      simp only [hl, Except.ok.injEq, Prod.mk.injEq] at h
      obtain ⟨rfl, rfl⟩ := h
      obtain ⟨⟨_, hscf, _⟩, hn5⟩ := foldLoop_benign _ _ n2 f2
        ⟨⟨hsinv1, Nat.zero_le _, by show 1 ≤ 6; omega, tokF_default⟩, hsc1, .of_cat 0 rfl⟩ hl
      exact ⟨hn5, hs', hscf⟩

/-- **the fingerprint of a text** is made of the seven benign classes, nothing was counted as a `#`/`--` comment -/
theorem fingerprint_txt (input : Bytes) (flags : Nat) (hq : NoQ (sqliInit input flags).flags) (htxt : Txt input) :
    ∃ st, fingerprint input flags = .ok st ∧ (∀ c ∈ st.fingerprint, c = 0 ∨ c = 49 ∨ c = 110 ∨ c = 118 ∨ c = 44 ∨ c = 63 ∨ c = 58) ∧
      st.ddx = 0 ∧ st.hash = 0 := by
  obtain ⟨n, s', hfold, hn5, hs', _, _, _, hd, hh, hb⟩ := fold_txt input flags hq htxt
  unfold fingerprint
  simp only [hfold, bind, Except.bind, pure, Except.pure]
  have hre : recatLast s' n = .ok s' := by
    unfold recatLast
    by_cases hn2 : n > 2
    · rw [if_pos hn2]
      obtain ⟨t, ht, _, hget⟩ := tvGetW s' hs'.weak (n - 1) (by omega)
      simp only [ht, bind, Except.bind, pure, Except.pure]
      have hbt := hb t (List.mem_of_getElem? hget)
      -- a benign bareword is not empty
      have : (t.cat == 110 && t.strOpen == 96 && t.len == 0 && t.strClose == 0) = false := by
        by_cases hc : t.cat = 110
        · have hl := (hbt.word_of_merge (by rw [hc]; decide)).1
          have : (t.len == 0) = false := by simp; omega
          simp [this]
        · simp [hc]
      simp only [this, Bool.false_eq_true, ↓reduceIte]
    · rw [if_neg hn2]; rfl
  rw [hre]
  simp only []
  have h88 : ∀ t ∈ s'.tv, t.cat ≠ 88 := by
    intro t ht
    rcases (hb t ht).cats with e | e | e | e | e | e | e <;> (rw [e]; decide)
  -- `buildFp` gives up on an evil token only
  rcases buildFp_ok s' hs'.weak n (by omega) 8 0 [] (by omega) with ⟨_, t, ht, h⟩ | hfp
  · exact absurd h (h88 t ht)
  rw [hfp]
  simp only []
  refine ⟨_, rfl, ?_, hd, hh⟩
  intro c hc
  simp only [List.nil_append, List.drop_zero, Nat.sub_zero, List.mem_map] at hc
  obtain ⟨t, ht, rfl⟩ := hc
  exact (hb t (List.mem_of_mem_take ht)).cats

/-- one as-is reading of a text: not SQLi, and no re-parse as MySQL is requested -/
theorem pass_txt (input : Bytes) (flags : Nat) (hq : NoQ (sqliInit input flags).flags) (htxt : Txt input) :
    ∃ fp, pass input flags = .ok (false, fp, false) := by
  obtain ⟨st, hfp, hcats, hd, hh⟩ := fingerprint_txt input flags hq htxt
  unfold pass
  simp only [hfp, bind, Except.bind, pure, Except.pure]
  have hbl : blacklist st = false := by
    unfold blacklist
    by_cases hl : st.fingerprint.length < 1
    · simp [hl]
    · simp only [hl, ↓reduceIte]
      have := n1_not_blacklisted st.fingerprint hcats
      simpa using this
  have hck : checkFingerprint st = .ok false := by
    unfold checkFingerprint
    simp only [hbl, Bool.false_eq_true, ↓reduceIte, pure, Except.pure]
  have hrp : reparseAsMySQL st = false := by
    unfold reparseAsMySQL; simp [hd, hh]
  simp only [hck, hrp]
  exact ⟨_, rfl⟩

theorem noquote_append {w r : Bytes} (hw : ∀ c ∈ w, c ≠ 39 ∧ c ≠ 34) (hr : ∀ c ∈ r, c ≠ 39 ∧ c ≠ 34) :
    ∀ c ∈ w ++ r, c ≠ 39 ∧ c ≠ 34 :=
  fun c hc => (List.mem_append.mp hc).elim (hw c) (hr c)

theorem WordRun.noquote {w : Bytes} (h : WordRun w) (c : UInt8) (hc : c ∈ w) : c ≠ 39 ∧ c ≠ 34 :=
  (h.byte_facts c hc).2.2.2

theorem NumRun.noquote {w : Bytes} (h : NumRun w) (c : UInt8) (hc : c ∈ w) : c ≠ 39 ∧ c ≠ 34 :=
  (h.byte_facts c hc).2

/-- no quote occurs in a text, so `isSQLi` tries none of the quoted readings -/
theorem txt_noquote {r : Bytes} (h : Txt r) : ∀ c ∈ r, c ≠ 39 ∧ c ≠ 34 := by
  induction h with
  | nil => exact fun c hc => by cases hc
  | space _ ih => exact noquote_append (w := [32]) (by decide) ih
  | punct hp _ ih => exact noquote_append (w := [_]) (by rcases hp with rfl | rfl <;> decide) ih
  | colon _ ih => exact noquote_append (w := [58, 32]) (by decide) ih
  | word hw _ _ ih => exact noquote_append (hw.elim (·.run.noquote) (·.run.noquote)) ih
  | wordAt hw _ _ ih => exact noquote_append hw.run.noquote ih
  | dotted hw _ _ ih => exact noquote_append hw.run.noquote ih
  | dottedAt hw _ _ ih => exact noquote_append hw.run.noquote ih
  | numAt hw _ _ ih => exact noquote_append hw.run.noquote ih
  | dec hw _ _ ih => exact noquote_append hw.run.noquote ih
  | sci hw _ _ ih => exact noquote_append hw.run.noquote ih
  | var hv _ _ ih =>
    refine noquote_append (w := [64]) (by decide) (noquote_append (fun c hc => ?_) ih)
    obtain ⟨_, _, h39, h34, _⟩ := varByte_facts c (List.all_eq_true.mp (varBody_bytes hv).1 c hc)
    exact ⟨h39, h34⟩

/-- **C14 on the model: a text of the grammar `Txt` is never reported as SQLi.** -/
theorem isSQLi_txt (input : Bytes) (htxt : Txt input) : isSQLi input = .ok (false, []) := by
  unfold isSQLi
  by_cases he : (input.length == 0) = true
  · simp [he, pure, Except.pure]
  · simp only [he, Bool.false_eq_true, ↓reduceIte, bind, Except.bind, pure, Except.pure]
    obtain ⟨fp, hp⟩ := pass_txt input (flagQuoteNone ||| flagAnsi) (show (hasFlag 9 flagQuoteSingle || hasFlag 9 flagQuoteDouble) = false by decide) htxt
    have hnoq : ∀ q : UInt8, q = 39 ∨ q = 34 → (indexByte input q).isSome = false := by
      intro q hq
      have : indexByte input q = none := by
        rw [indexByte_none_iff]
        intro hm
        have := txt_noquote htxt q hm
        rcases hq with rfl | rfl
        · exact this.1 rfl
        · exact this.2 rfl
      simp [this]
    simp only [hp, Bool.false_eq_true, ↓reduceIte, gated, noPass, hnoq 39 (Or.inl rfl), hnoq 34 (Or.inr rfl),
      Bool.false_and, pure, Except.pure]

end LibInj.Sqli
