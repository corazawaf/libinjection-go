import LibInj.Proofs.Benign
/-! C14: lexing of benign texts. A word (possibly dotted) is a run of word bytes that `parseWord` returns whole
(`WordRun`, `parseWord_run`), a number is digits with an optional fraction and exponent that `parseNumber` returns whole
(`NumRun`, `parseNumber_run`); the grammar `Txt` strings such runs, `@` variables and the marks `,` `?` `: ` together, the lexer at the head of a text
yields one benign token and stops in front of a text (`txt_head`), and so the scan loop and `fold`'s fetch loop keep the
scanner on the text and the window benign (`ScanOK`, `tokLoop_txt`, `tokenize_txt`, `fetch_txt`). -/
namespace LibInj.Sqli
open LibInj LibInj.Spec

def isWordStartB (c : UInt8) : Bool := isLowerAscii c || isUpperAscii c || c == 95
def isWordByteB (c : UInt8) : Bool := isWordStartB c || isDigit c

/-- an identifier that is not a keyword and starts no phrase of the keyword table -/
def GoodWord (w : Bytes) : Prop :=
  (∃ c t, w = c :: t ∧ isWordStartB c = true ∧ t.all isWordByteB = true) ∧
  (w.length < 32 → searchKeyword w = 0) ∧ (w.length ≤ 31 → PhraseFree w)

/-- an unsigned integer -/
def GoodNum (w : Bytes) : Prop := w ≠ [] ∧ w.all isDigit = true

/-- what follows a word: end of input or a space -/
def Sep (r : Bytes) : Prop := r = [] ∨ ∃ r', r = 32 :: r'

/-- the bytes that may follow a word directly: a space, the `@` of a variable (`name@host.tld`), or one of the
punctuation marks `,` `:` `?` -/
def isSepByte (d : UInt8) : Bool := d == 32 || d == 64 || d == 44 || d == 58 || d == 63

/-- what may follow a word: end of input or a separator byte -/
def SepW (r : Bytes) : Prop := r = [] ∨ ∃ d r', r = d :: r' ∧ isSepByte d = true

/-- the bytes that may follow an unsigned integer directly: a space or one of the punctuation marks `,` `:` `?` -/
def isNumSep (d : UInt8) : Bool := d == 32 || d == 44 || d == 58 || d == 63

/-- what may follow an unsigned integer: end of input or such a byte -/
def SepN (r : Bytes) : Prop := r = [] ∨ ∃ d r', r = d :: r' ∧ isNumSep d = true

theorem Sep.toW {r : Bytes} (h : Sep r) : SepW r := by
  rcases h with h | ⟨r', h⟩
  · exact Or.inl h
  · exact Or.inr ⟨32, r', h, rfl⟩

theorem Sep.toN {r : Bytes} (h : Sep r) : SepN r := by
  rcases h with h | ⟨r', h⟩
  · exact Or.inl h
  · exact Or.inr ⟨32, r', h, rfl⟩

theorem Sep.first {r : Bytes} (h : Sep r) {d : UInt8} (hd : r[0]? = some d) : d = 32 := by
  rcases h with rfl | ⟨r', rfl⟩
  · simp at hd
  · simpa using hd.symm

theorem SepW.first {r : Bytes} (h : SepW r) {d : UInt8} (hd : r[0]? = some d) : isSepByte d = true := by
  rcases h with rfl | ⟨d', r', rfl, h⟩
  · simp at hd
  · rw [List.getElem?_cons_zero, Option.some.injEq] at hd
    exact hd ▸ h

theorem SepN.first {r : Bytes} (h : SepN r) {d : UInt8} (hd : r[0]? = some d) : isNumSep d = true := by
  rcases h with rfl | ⟨d', r', rfl, h⟩
  · simp at hd
  · rw [List.getElem?_cons_zero, Option.some.injEq] at hd
    exact hd ▸ h

/-- table facts about the bytes of words (re-checked against the regenerated tables on every build) -/
theorem wordByte_facts (c : UInt8) (h : isWordByteB c = true) :
    notWordAccept c = true ∧ c ≠ 46 ∧ c ≠ 96 ∧ c ≠ 39 ∧ c ≠ 38 ∧ c ≠ 32 := by
  have := forall_byte (fun c => !isWordByteB c ||
    (notWordAccept c && c != 46 && c != 96 && c != 39 && c != 38 && c != 32)) (by decide +kernel) c
  simpa [h, and_assoc] using this

theorem sepByte_facts (d : UInt8) (h : isSepByte d = true) :
    notWordAccept d = false ∧ d ≠ 39 ∧ d ≠ 38 ∧ d ≠ 113 ∧ d ≠ 81 := by
  unfold isSepByte at h
  simp only [Bool.or_eq_true, beq_iff_eq] at h
  rcases h with (((rfl | rfl) | rfl) | rfl) | rfl <;> decide +kernel

theorem digit_facts (c : UInt8) (h : isDigit c = true) :
    c ≠ 88 ∧ c ≠ 120 ∧ c ≠ 66 ∧ c ≠ 98 ∧ c ≠ 46 ∧ c ≠ 32 := by
  have := forall_byte (fun c => !isDigit c || (c != 88 && c != 120 && c != 66 && c != 98 && c != 46 && c != 32))
    (by decide +kernel) c
  simpa [h, and_assoc] using this

theorem numSep_facts (d : UInt8) (h : isNumSep d = true) :
    isDigit d = false ∧ d ≠ 88 ∧ d ≠ 120 ∧ d ≠ 66 ∧ d ≠ 98 ∧ d ≠ 46 ∧ d ≠ 69 ∧ d ≠ 101 ∧ d ≠ 100 ∧ d ≠ 68 ∧ d ≠ 102 ∧ d ≠ 70 := by
  unfold isNumSep at h
  simp only [Bool.or_eq_true, beq_iff_eq] at h
  rcases h with ((rfl | rfl) | rfl) | rfl <;> decide

theorem all_imp {p q : UInt8 → Bool} {l : Bytes} (h : l.all p = true) (hpq : ∀ c, p c = true → q c = true) : l.all q = true := by
  rw [List.all_eq_true] at h ⊢
  exact fun x hx => hpq x (h x hx)

theorem spn_all (p : UInt8 → Bool) : ∀ (l : Bytes), l.all p = true → spn p l = l.length
  | [], _ => rfl
  | x :: xs, h => by
    simp only [List.all_cons, Bool.and_eq_true] at h
    simp [spn, h.1, spn_all p xs h.2]

theorem spn_run (p : UInt8 → Bool) (w r : Bytes) (hw : w.all p = true) (hr : ∀ d, r[0]? = some d → p d = false) :
    spn p (w ++ r) = w.length := by
  cases r with
  | nil => simp [spn_all p w hw]
  | cons d r' => exact spn_append_stop p w d r' hw (hr d rfl)

theorem get_app (m l : Bytes) (i : Nat) : (m ++ l)[m.length + i]? = l[i]? := by
  rw [List.getElem?_append_right (by omega)]; congr 1; omega

theorem get_app_zero (m l : Bytes) : (m ++ l)[m.length]? = l[0]? := get_app m l 0

theorem at'_app (m l : Bytes) (i : Nat) : at' (m ++ l) (m.length + i) = at' l i := by
  unfold at'; rw [get_app]

theorem sliceFrom_app (m l : Bytes) (k : Nat) (hk : k ≤ l.length) : sliceFrom (m ++ l) (m.length + k) = .ok (l.drop k) := by
  unfold sliceFrom
  have : m.length + k ≤ (m ++ l).length := by simp; omega
  simp only [this, ↓reduceIte]
  rw [← List.drop_drop, List.drop_left]

theorem mem_or_first (w r : Bytes) (i : Nat) (x : UInt8) (hi : i ≤ w.length) (h : (w ++ r)[i]? = some x) :
    x ∈ w ∨ r[0]? = some x := by
  rcases Nat.lt_or_ge i w.length with hl | hg
  · rw [List.getElem?_append_left hl] at h
    exact Or.inl (List.mem_of_getElem? h)
  · have : i = w.length + 0 := by omega
    rw [this, get_app] at h
    exact Or.inr h

/-! ## words -/

theorem splitLoop_safe (rest : Bytes) (t : Token) (hv : t.val.length = t.len) (hr : t.len ≤ rest.length) :
    ∀ fuel i0, (∀ i, i0 ≤ i → ¬ Properties.C06.SplitAt t.val i) → splitLoop rest t i0 fuel = .ok none
  | 0, _, _ => rfl
  | fuel + 1, i0, h => by
    rw [(splitLoop_succ rest t hv hr i0 fuel).2 (h i0 (Nat.le_refl _))]
    split
    · exact splitLoop_safe rest t hv hr fuel (i0 + 1) fun i hi => h i (by omega)
    · rfl

/-- a dotted identifier `w1.w2` that is no key, starts no phrase, and whose first part is no keyword -/
def GoodDotted (w : Bytes) : Prop :=
  ∃ w1 w2, w = w1 ++ 46 :: w2 ∧ (∃ c t, w1 = c :: t ∧ isWordStartB c = true ∧ t.all isWordByteB = true) ∧
    w2.all isWordByteB = true ∧ (searchKeyword w1 = 0 ∨ searchKeyword w1 = 110) ∧
    (w.length < 32 → searchKeyword w = 0) ∧ (w.length ≤ 31 → PhraseFree w)

/-- the token a good word or number is lexed to -/
def goodTok (cat : UInt8) (w : Bytes) : Token := { cat := cat, pos := 0, len := clip w.length, val := w.take (clip w.length) }

/-- what `parseWord` needs of a run `w` to return it whole as one bareword that `merge` leaves alone: it starts like a
word and goes on with word bytes and dots, the text before each dot is no keyword, `w` is no key and starts no phrase -/
structure WordRun (w : Bytes) : Prop where
  start : ∃ c t, w = c :: t ∧ isWordStartB c = true
  bytes : ∀ x ∈ w, isWordByteB x = true ∨ x = 46
  dots : ∀ i, (w[i]? = some 46) → searchKeyword (w.take i) = 0 ∨ searchKeyword (w.take i) = 110
  key : w.length < 32 → searchKeyword w = 0
  phrase : w.length ≤ 31 → PhraseFree w

theorem goodWord_bytes {w : Bytes} (h : GoodWord w) : w.all isWordByteB = true ∧ 1 ≤ w.length := by
  obtain ⟨⟨c, t, rfl, hc, ht⟩, _⟩ := h
  simp [isWordByteB, hc, ht]

theorem GoodWord.run {w : Bytes} (h : GoodWord w) : WordRun w := by
  have hall := List.all_eq_true.mp (goodWord_bytes h).1
  obtain ⟨⟨c, t, hw, hc, _⟩, hk, hp⟩ := h
  exact ⟨⟨c, t, hw, hc⟩, fun x hx => Or.inl (hall x hx),
    fun i hi => absurd (hall 46 (List.mem_of_getElem? hi)) (by decide), hk, hp⟩

theorem GoodDotted.run {w : Bytes} (h : GoodDotted w) : WordRun w := by
  obtain ⟨w1, w2, rfl, ⟨c, t, rfl, hc, ht⟩, hall2, hk1, hk, hp⟩ := h
  have all1 : ∀ x ∈ c :: t, isWordByteB x = true := List.all_eq_true.mp (by simp [isWordByteB, hc, ht])
  have all2 := List.all_eq_true.mp hall2
  refine ⟨⟨c, t ++ 46 :: w2, rfl, hc⟩, fun x hx => ?_, fun i hi => ?_, hk, hp⟩
  · rcases List.mem_append.mp hx with h | h
    · exact Or.inl (all1 x h)
    · rcases List.mem_cons.mp h with rfl | h
      · exact Or.inr rfl
      · exact Or.inl (all2 x h)
  · -- the only `.` is the one after the first part
    rcases Nat.lt_or_ge i (c :: t).length with h | h
    · rw [List.getElem?_append_left h] at hi
      exact absurd (all1 46 (List.mem_of_getElem? hi)) (by decide)
    · obtain ⟨j, rfl⟩ := Nat.exists_eq_add_of_le h
      rw [get_app] at hi
      cases j with
      | zero => rw [Nat.add_zero, List.take_left]; exact hk1
      | succ j =>
        rw [List.getElem?_cons_succ] at hi
        exact absurd (all2 46 (List.mem_of_getElem? hi)) (by decide)

theorem WordRun.length_pos {w : Bytes} (h : WordRun w) : 1 ≤ w.length := by
  obtain ⟨c, t, rfl, _⟩ := h.start
  simp

theorem WordRun.byte_facts {w : Bytes} (h : WordRun w) (x : UInt8) (hx : x ∈ w) :
    notWordAccept x = true ∧ x ≠ 96 ∧ x ≠ 38 ∧ x ≠ 39 ∧ x ≠ 34 := by
  rcases h.bytes x hx with hb | rfl
  · obtain ⟨hacc, _, h96, h39, h38, _⟩ := wordByte_facts x hb
    exact ⟨hacc, h96, h38, h39, fun e => by rw [e] at hb; exact absurd hb (by decide)⟩
  · decide +kernel

theorem parseWord_run (w r : Bytes) (hw : WordRun w) (hr : SepW r) :
    parseWord (w ++ r) = .ok { tok := goodTok 110 w, next := w.length } := by
  have hlen := hw.length_pos
  have hspn := spn_run notWordAccept w r (List.all_eq_true.mpr fun x hx => (hw.byte_facts x hx).1)
    (fun d hd => (sepByte_facts d (hr.first hd)).1)
  have hcl := clip_le w.length
  unfold parseWord goodTok
  simp only [hspn]
  rw [assign_ok _ _ _ _ _ (by simp; omega)]
  simp only [bind, Except.bind, pure, Except.pure]
  rw [List.take_append_of_le_length (by omega)]
  rw [splitLoop_safe (w ++ r) _ (by simp; omega) (by simp; omega) _ _ (by
    rintro i _ ⟨hd, hk0, hk⟩
    have hic : i < clip w.length := by
      have := Properties.C06.SplitAt.lt ⟨hd, hk0, hk⟩; simp only [List.length_take] at this; omega
    have hiw : i < w.length := by omega
    rw [List.getElem?_take_of_lt hic] at hd
    rw [List.take_take, Nat.min_eq_left (by omega)] at hk0 hk
    rcases hd with hd | hd
    · rcases hw.dots i hd with h | h
      · exact hk0 h
      · exact hk h
    · exact (hw.byte_facts _ (List.getElem_mem hiw)).2.1 (by simpa [List.getElem?_eq_getElem hiw] using hd))]
  simp only []
  by_cases hlt : w.length < tokenSize
  · have hc : clip w.length = w.length := clip_of_lt hlt
    simp only [hlt, ↓reduceIte, hc]
    rw [slice_ok _ 0 w.length (by omega) (by simp)]
    have e : ((w.take w.length).drop 0).take (w.length - 0) = w := by simp
    rw [e]
    simp only [hw.key hlt]
    simp
  · simp only [hlt, ↓reduceIte]

theorem parseWord_dotted (w r : Bytes) (hw : GoodDotted w) (hr : SepW r) :
    parseWord (w ++ r) = .ok { tok := { cat := 110, pos := 0, len := clip w.length, val := w.take (clip w.length) },
                               next := w.length } := parseWord_run w r hw.run hr

/-- what the prefix lexers (`b'`, `e'`, `n'`, `q'`, `u&'`, `x'`) look at before falling back to `parseWord` -/
structure NoQuote (rest : Bytes) : Prop where
  one : ∀ x, rest[1]? = some x → x ≠ 39 ∧ x ≠ 38
  two : (rest[1]? = some 113 ∨ rest[1]? = some 81) → ∀ x, rest[2]? = some x → x ≠ 39

theorem noQuote_run (w r : Bytes) (hw : WordRun w) (hr : SepW r) : NoQuote (w ++ r) := by
  have hlen := hw.length_pos
  have key : ∀ i x, i ≤ w.length → (w ++ r)[i]? = some x → x ≠ 39 ∧ x ≠ 38 := by
    intro i x hi hx
    rcases mem_or_first w r i x hi hx with h | h
    · obtain ⟨_, _, h38, h39, _⟩ := hw.byte_facts x h
      exact ⟨h39, h38⟩
    · obtain ⟨_, h39, h38, _⟩ := sepByte_facts x (hr.first h)
      exact ⟨h39, h38⟩
  refine ⟨fun x hx => key 1 x hlen hx, fun hq x hx => (key 2 x ?_ hx).1⟩
  -- a one-byte run is followed by a separator, and that is no `q`
  rcases Nat.lt_or_ge 1 w.length with h | h
  · exact h
  · exfalso
    have e : (w ++ r)[1]? = r[0]? := by
      have := get_app w r 0
      rwa [show w.length + 0 = 1 by omega] at this
    rw [e] at hq
    rcases hq with hq | hq
    · obtain ⟨_, _, _, h113, _⟩ := sepByte_facts _ (hr.first hq)
      exact h113 rfl
    · obtain ⟨_, _, _, _, h81⟩ := sepByte_facts _ (hr.first hq)
      exact h81 rfl

/-- the prefix lexers test `rest[1]` against a quote (or `&`) before anything else -/
theorem guard_ne (rest : Bytes) (c : UInt8) (h : ∀ x, rest[1]? = some x → x ≠ c) :
    (g (2 ≥ rest.length) <||> byteNe rest 1 c) = .ok true := by
  simp only [g, orM, toBool, byteNe, bind, Except.bind, pure, Except.pure]
  by_cases h2 : 2 ≥ rest.length
  · simp only [h2, decide_true]
  · have h1 : 1 < rest.length := by omega
    have e : (rest[1] != c) = true := by simpa using h _ (List.getElem?_eq_getElem h1)
    simp only [h2, decide_false, at'_ok h1, e]

theorem byteIs_one (rest : Bytes) (c : UInt8) (h : ∀ x, rest[1]? = some x → x ≠ c) (h2 : 2 < rest.length) :
    byteIs rest 1 c = .ok false := by
  have h1 : 1 < rest.length := by omega
  have e : (rest[1] == c) = false := by simpa using h _ (List.getElem?_eq_getElem h1)
  simp only [byteIs, at'_ok h1, e, bind, Except.bind, pure, Except.pure]

theorem parseXBString_word (digits rest : Bytes) (hq : NoQuote rest) : parseXBString digits rest = parseWord rest := by
  unfold parseXBString
  simp only [guard_ne rest 39 fun x hx => (hq.one x hx).1, bind, Except.bind, ↓reduceIte]

theorem parseEString_word (rest : Bytes) (hq : NoQuote rest) : parseEString rest = parseWord rest := by
  unfold parseEString
  simp only [guard_ne rest 39 fun x hx => (hq.one x hx).1, bind, Except.bind, ↓reduceIte]

theorem parseUString_word (rest : Bytes) (hq : NoQuote rest) : parseUString rest = parseWord rest := by
  unfold parseUString
  by_cases h2 : 2 < rest.length
  · simp only [g, andM, toBool, h2, decide_true, byteIs_one rest 38 (fun x hx => (hq.one x hx).2) h2, bind, Except.bind,
      pure, Except.pure, Bool.false_eq_true, ↓reduceIte]
  · simp only [g, andM, toBool, h2, decide_false, bind, Except.bind, pure, Except.pure, Bool.false_eq_true, ↓reduceIte]

theorem parseQStringCore_word (rest : Bytes) (offset : Nat) (ho : offset ≤ 1) (hq : NoQuote rest) :
    parseQStringCore rest offset = parseWord rest := by
  unfold parseQStringCore
  simp only []
  by_cases hp : offset + 2 < rest.length
  · have hp0 : ¬ offset ≥ rest.length := by omega
    have hp2 : ¬ offset + 2 ≥ rest.length := by omega
    have h0 : offset < rest.length := by omega
    have h1 : offset + 1 < rest.length := by omega
    simp only [hp0, hp2, ↓reduceIte, at'_ok h0, at'_ok h1, at'_ok hp, ok_bind, pure_ok, ite_ok]
    rw [if_pos]
    -- when the byte at `offset` is a `q`, the next one is no quote
    split
    · rfl
    · rename_i hc
      have hne39 : rest[offset + 1] ≠ 39 := by
        rcases Nat.eq_zero_or_pos offset with rfl | hpos
        · exact (hq.one _ (List.getElem?_eq_getElem h1)).1
        · obtain rfl : offset = 1 := by omega
          refine hq.two ?_ _ (List.getElem?_eq_getElem h1)
          rw [List.getElem?_eq_getElem h0]
          simp only [Bool.and_eq_true, bne_iff_ne, ne_eq, not_and, Decidable.not_not] at hc
          by_cases h113 : rest[1] = 113
          · left; rw [h113]
          · right; rw [hc h113]
      simpa using hne39
  · by_cases hp0 : offset ≥ rest.length
    · simp only [hp0, ↓reduceIte, ok_bind, pure_ok]
    · have hp2 : offset + 2 ≥ rest.length := by omega
      simp only [hp0, hp2, ↓reduceIte, at'_ok (show offset < rest.length by omega), ok_bind, pure_ok, ite_self]

theorem parseNqString_word (rest : Bytes) (hq : NoQuote rest) : parseNqString rest = parseWord rest := by
  unfold parseNqString
  by_cases h2 : 2 < rest.length
  · simp only [g, andM, toBool, h2, decide_true, byteIs_one rest 39 (fun x hx => (hq.one x hx).1) h2, bind, Except.bind,
      pure, Except.pure, Bool.false_eq_true, ↓reduceIte]
    exact parseQStringCore_word rest 1 (Nat.le_refl _) hq
  · simp only [g, andM, toBool, h2, decide_false, bind, Except.bind, pure, Except.pure, Bool.false_eq_true, ↓reduceIte]
    exact parseQStringCore_word rest 1 (Nat.le_refl _) hq

/-- dispatch classes whose lexer falls back to `parseWord` -/
def wordyP : P → Bool
  | .word | .bstring | .estring | .nqstring | .qstring | .ustring | .xstring => true
  | _ => false

/-- table facts about the regenerated dispatch table -/
theorem dispatch_wordStart (c : UInt8) (h : isWordStartB c = true) : wordyP (dispatch c) = true := by
  have := forall_byte (fun c => !isWordStartB c || wordyP (dispatch c)) (by decide +kernel) c
  simpa [h] using this

theorem dispatch_digit (c : UInt8) (h : isDigit c = true) : dispatch c = .number := by
  have := forall_byte (fun c => !isDigit c || (dispatch c == .number)) (by decide +kernel) c
  simpa [h] using this

theorem dispatch_space : dispatch 32 = .white := by decide +kernel

/-- **through the dispatch table, such a run becomes one bareword**: every lexer a letter can select falls back to `parseWord` -/
theorem runP_run (flags : Nat) (w r : Bytes) (hw : WordRun w) (hr : SepW r) (c : UInt8) (hc : (w ++ r)[0]? = some c) :
    runP flags (w ++ r) (dispatch c) = .ok { tok := goodTok 110 w, next := w.length } := by
  obtain ⟨c0, t, hwe, hc0⟩ := hw.start
  have hcc : c = c0 := by
    rw [hwe] at hc; simpa using hc.symm
  subst hcc
  have hq := noQuote_run w r hw hr
  have hd := dispatch_wordStart c hc0
  rw [← parseWord_run w r hw hr]
  unfold runP
  cases hdc : dispatch c <;> simp only [hdc, wordyP] at hd ⊢ <;> (try (exact absurd hd (by decide)))
  · exact parseUString_word _ hq
  · exact parseQStringCore_word _ 0 (by omega) hq
  · exact parseNqString_word _ hq
  · exact parseXBString_word _ _ hq
  · exact parseXBString_word _ _ hq
  · exact parseEString_word _ hq

/-! ## numbers -/

/-- a decimal number: digits, a dot, digits -/
def GoodDec (w : Bytes) : Prop := ∃ d1 d2, w = d1 ++ 46 :: d2 ∧ GoodNum d1 ∧ d2.all isDigit = true

/-- an unsigned integer with an exponent: `m e x`, `m e+x`, `m e-x` (either case of `e`) -/
def GoodSci (w : Bytes) : Prop :=
  ∃ m x : Bytes, ∃ e : UInt8, ∃ s : Bytes, w = m ++ e :: (s ++ x) ∧ GoodNum m ∧ GoodNum x ∧ (e = 69 ∨ e = 101) ∧
    (s = [] ∨ s = [43] ∨ s = [45])

/-- an optional fraction: nothing, or a dot and digits -/
def Frac (f : Bytes) : Prop := f = [] ∨ ∃ d, f = 46 :: d ∧ d.all isDigit = true

/-- an optional exponent: nothing, or `e`/`E`, an optional sign, digits -/
def Expo (ex : Bytes) : Prop :=
  ex = [] ∨ ∃ (e : UInt8) (s x : Bytes), ex = e :: (s ++ x) ∧ (e = 69 ∨ e = 101) ∧ (s = [] ∨ s = [43] ∨ s = [45]) ∧ GoodNum x

/-- the unsigned numbers that `parseNumber` returns whole: digits, an optional fraction, an optional exponent -/
def NumRun (w : Bytes) : Prop := ∃ m f ex, w = m ++ (f ++ ex) ∧ GoodNum m ∧ Frac f ∧ Expo ex

theorem GoodNum.run {w : Bytes} (h : GoodNum w) : NumRun w := ⟨w, [], [], by simp, h, Or.inl rfl, Or.inl rfl⟩

theorem GoodDec.run {w : Bytes} (h : GoodDec w) : NumRun w := by
  obtain ⟨d1, d2, rfl, h1, h2⟩ := h
  exact ⟨d1, 46 :: d2, [], by simp, h1, Or.inr ⟨d2, rfl, h2⟩, Or.inl rfl⟩

theorem GoodSci.run {w : Bytes} (h : GoodSci w) : NumRun w := by
  obtain ⟨m, x, e, s, rfl, hm, hx, he, hs⟩ := h
  exact ⟨m, [], e :: (s ++ x), rfl, hm, Or.inl rfl, Or.inr ⟨e, s, x, rfl, he, hs, hx⟩⟩

theorem Frac.first {f t : Bytes} (hf : Frac f) {x : UInt8} (hx : (f ++ t)[0]? = some x) : x = 46 ∨ (f = [] ∧ t[0]? = some x) := by
  rcases hf with rfl | ⟨d, rfl, _⟩
  · exact Or.inr ⟨rfl, hx⟩
  · exact Or.inl (by simpa using hx.symm)

theorem Expo.first {ex t : Bytes} (he : Expo ex) {x : UInt8} (hx : (ex ++ t)[0]? = some x) :
    x = 69 ∨ x = 101 ∨ (ex = [] ∧ t[0]? = some x) := by
  rcases he with rfl | ⟨e, s, y, rfl, he, _⟩
  · exact Or.inr (Or.inr ⟨rfl, hx⟩)
  · have : x = e := by simpa using hx.symm
    rcases he with rfl | rfl
    · exact Or.inl this
    · exact Or.inr (Or.inl this)

theorem numDigitSet_none (R : Bytes) (c0 : UInt8) (h : ∀ x, R[1]? = some x → x ≠ 88 ∧ x ≠ 120 ∧ x ≠ 66 ∧ x ≠ 98) :
    numDigitSet R c0 = .ok none := by
  unfold numDigitSet
  by_cases hc : (c0 == 48 && decide (1 < R.length)) = true
  · have h1 : 1 < R.length := by simp only [Bool.and_eq_true, decide_eq_true_eq] at hc; exact hc.2
    have hx := h _ (List.getElem?_eq_getElem h1)
    have e1 : (R[1] == 88 || R[1] == 120) = false := by simp [hx.1, hx.2.1]
    have e2 : (R[1] == 66 || R[1] == 98) = false := by simp [hx.2.2.1, hx.2.2.2]
    simp only [hc, ↓reduceIte, at'_ok h1, bind, Except.bind, pure, Except.pure, e1, e2, Bool.false_eq_true]
  · simp only [hc, Bool.false_eq_true, ↓reduceIte, pure, Except.pure]

theorem numDot_none (R : Bytes) (pos : Nat) (h : ∀ x, R[pos]? = some x → x ≠ 46) : numDot R pos = .ok (pos, false) := by
  unfold numDot
  simp only [g, andM, toBool, byteIs, bind, Except.bind, pure, Except.pure]
  by_cases hlt : pos < R.length
  · have e : (R[pos] == 46) = false := beq_eq_false_iff_ne.mpr (h _ (List.getElem?_eq_getElem hlt))
    simp only [hlt, decide_true, ↓reduceIte, at'_ok hlt, e, Bool.false_eq_true]
  · simp only [hlt, decide_false, Bool.false_eq_true, ↓reduceIte]

theorem numExp_none (R : Bytes) (pos : Nat) (h : ∀ x, R[pos]? = some x → x ≠ 69 ∧ x ≠ 101) :
    numExp R pos = .ok (pos, false, false) := by
  unfold numExp
  simp only [bind, Except.bind, pure, Except.pure]
  by_cases hlt : pos < R.length
  · have hx := h _ (List.getElem?_eq_getElem hlt)
    have e : (R[pos] == 69 || R[pos] == 101) = false := by simp [hx.1, hx.2]
    simp only [hlt, ↓reduceIte, at'_ok hlt, e, Bool.false_eq_true]
  · simp only [hlt, ↓reduceIte]

theorem numSuffix_none (R : Bytes) (pos : Nat) (h : ∀ x, R[pos]? = some x → x ≠ 100 ∧ x ≠ 68 ∧ x ≠ 102 ∧ x ≠ 70) :
    numSuffix R pos = .ok pos := by
  unfold numSuffix
  simp only [bind, Except.bind, pure, Except.pure]
  by_cases hlt : pos < R.length
  · have hx := h _ (List.getElem?_eq_getElem hlt)
    have e : (R[pos] == 100 || R[pos] == 68 || R[pos] == 102 || R[pos] == 70) = false := by
      simp [hx.1, hx.2.1, hx.2.2.1, hx.2.2.2]
    simp only [hlt, ↓reduceIte, at'_ok hlt, e, Bool.false_eq_true]
  · simp only [hlt, ↓reduceIte]

theorem numDot_frac (m f t : Bytes) (hm : 1 ≤ m.length) (hf : Frac f)
    (ht : ∀ x, t[0]? = some x → isDigit x = false ∧ x ≠ 46) :
    numDot (m ++ (f ++ t)) m.length = .ok (m.length + f.length, false) := by
  rcases hf with rfl | ⟨d, rfl, hd⟩
  · exact numDot_none _ _ fun x hx => by
      have := get_app m ([] ++ t) 0
      rw [Nat.add_zero, hx] at this
      exact (ht x this.symm).2
  · simp only [List.cons_append, List.length_cons]
    have hlt : m.length < (m ++ 46 :: (d ++ t)).length := by simp
    have hat : at' (m ++ 46 :: (d ++ t)) m.length = .ok 46 := at'_app m (46 :: (d ++ t)) 0
    have hsl : sliceFrom (m ++ 46 :: (d ++ t)) (m.length + 1) = .ok (d ++ t) := sliceFrom_app m (46 :: (d ++ t)) 1 (by simp)
    have e1 : (m.length + 1 + d.length == 1) = false := by simp; omega
    unfold numDot
    simp only [g, andM, toBool, byteIs, bind, Except.bind, pure, Except.pure, hlt, decide_true, hat, beq_self_eq_true,
      ↓reduceIte, hsl, spn_run isDigit d t hd fun x hx => (ht x hx).1, e1]
    rw [Nat.add_assoc, Nat.add_comm 1]

theorem numExp_sci (p x r : Bytes) (e : UInt8) (s : Bytes) (he : e = 69 ∨ e = 101) (hs : s = [] ∨ s = [43] ∨ s = [45])
    (hx : GoodNum x) (hr : ∀ d, r[0]? = some d → isDigit d = false) :
    numExp (p ++ e :: (s ++ (x ++ r))) p.length = .ok (p.length + 1 + s.length + x.length, true, true) := by
  obtain ⟨hnex, hallx⟩ := hx
  obtain ⟨x0, xt, rfl⟩ := List.exists_cons_of_ne_nil hnex
  have hx0 : isDigit x0 = true := by simp only [List.all_cons, Bool.and_eq_true] at hallx; exact hallx.1
  have hx0s : (x0 == 43 || x0 == 45) = false := by
    have : x0 ≠ 43 ∧ x0 ≠ 45 := by
      constructor <;> (intro h; rw [h] at hx0; revert hx0; decide)
    simp [this.1, this.2]
  have hspn := spn_run isDigit (x0 :: xt) r hallx hr
  have hk : ((x0 :: xt).length != 0) = true := by simp
  have ee : (e == 69 || e == 101) = true := by rcases he with rfl | rfl <;> rfl
  have hat0 : at' (p ++ e :: (s ++ (x0 :: xt ++ r))) p.length = .ok e := at'_app p _ 0
  have hlt : p.length < (p ++ e :: (s ++ (x0 :: xt ++ r))).length := by simp
  have hlt1 : p.length + 1 < (p ++ e :: (s ++ (x0 :: xt ++ r))).length := by simp; omega
  unfold numExp
  simp only [hlt, ↓reduceIte, hat0, bind, Except.bind, pure, Except.pure, ee, hlt1]
  -- the byte after `e` is the sign or the first digit of the exponent
  rcases hs with rfl | hs
  · have hat1 : at' (p ++ e :: ([] ++ (x0 :: xt ++ r))) (p.length + 1) = .ok x0 := at'_app p _ 1
    have hsl : sliceFrom (p ++ e :: ([] ++ (x0 :: xt ++ r))) (p.length + 1) = .ok (x0 :: xt ++ r) :=
      sliceFrom_app p (e :: (x0 :: xt ++ r)) 1 (by simp)
    simp only [hat1, hx0s, Bool.false_eq_true, ↓reduceIte, hsl, hspn, hk, List.length_nil, Nat.add_zero]
  · obtain ⟨sg, rfl, hsg⟩ : ∃ sg, s = [sg] ∧ (sg == 43 || sg == 45) = true := by
      rcases hs with rfl | rfl
      · exact ⟨43, rfl, rfl⟩
      · exact ⟨45, rfl, rfl⟩
    have hat1 : at' (p ++ e :: ([sg] ++ (x0 :: xt ++ r))) (p.length + 1) = .ok sg := at'_app p _ 1
    have hsl : sliceFrom (p ++ e :: ([sg] ++ (x0 :: xt ++ r))) (p.length + 1 + 1) = .ok (x0 :: xt ++ r) :=
      sliceFrom_app p (e :: sg :: (x0 :: xt ++ r)) 2 (by simp)
    simp only [hat1, hsg, ↓reduceIte, hsl, hspn, hk]
    rfl

theorem numExp_expo (p ex r : Bytes) (hex : Expo ex) (hr : SepN r) :
    ∃ b, numExp (p ++ (ex ++ r)) p.length = .ok (p.length + ex.length, b, b) := by
  rcases hex with rfl | ⟨e, s, x, rfl, he, hs, hx⟩
  · exact ⟨false, numExp_none _ _ fun x hx => by
      have := get_app p ([] ++ r) 0
      rw [Nat.add_zero, hx] at this
      obtain ⟨_, _, _, _, _, _, h69, h101, _⟩ := numSep_facts x (hr.first this.symm)
      exact ⟨h69, h101⟩⟩
  · have hl : p.length + (e :: (s ++ x)).length = p.length + 1 + s.length + x.length := by
      simp only [List.length_cons, List.length_append]; omega
    rw [hl, List.cons_append, List.append_assoc]
    exact ⟨true, numExp_sci p x r e s he hs hx fun d hd => (numSep_facts d (hr.first hd)).1⟩

theorem NumRun.bytes {w : Bytes} (h : NumRun w) (x : UInt8) (hx : x ∈ w) : isDigit x = true ∨ x ∈ [46, 69, 101, 43, 45] := by
  obtain ⟨m, f, ex, rfl, ⟨_, hm⟩, hf, hex⟩ := h
  have dig : ∀ {l : Bytes}, l.all isDigit = true → x ∈ l → isDigit x = true ∨ x ∈ [46, 69, 101, 43, 45] :=
    fun hl h => Or.inl (List.all_eq_true.mp hl x h)
  simp only [List.mem_append] at hx
  rcases hx with h | h | h
  · exact dig hm h
  · rcases hf with rfl | ⟨d, rfl, hd⟩
    · cases h
    · rcases List.mem_cons.mp h with rfl | h
      · exact Or.inr (by decide)
      · exact dig hd h
  · rcases hex with rfl | ⟨e, s, y, rfl, he, hs, ⟨_, hy⟩⟩
    · cases h
    · simp only [List.mem_cons, List.mem_append] at h
      rcases h with rfl | h | h
      · rcases he with rfl | rfl <;> exact Or.inr (by decide)
      · rcases hs with rfl | rfl | rfl
        · cases h
        · rw [List.mem_singleton.mp h]; exact Or.inr (by decide)
        · rw [List.mem_singleton.mp h]; exact Or.inr (by decide)
      · exact dig hy h

theorem NumRun.byte_facts {w : Bytes} (h : NumRun w) (x : UInt8) (hx : x ∈ w) :
    (x ≠ 88 ∧ x ≠ 120 ∧ x ≠ 66 ∧ x ≠ 98) ∧ x ≠ 39 ∧ x ≠ 34 := by
  rcases h.bytes x hx with h | h
  · obtain ⟨h88, h120, h66, h98, _⟩ := digit_facts x h
    refine ⟨⟨h88, h120, h66, h98⟩, ?_, ?_⟩ <;> (rintro rfl; exact absurd h (by decide))
  · exact (by decide : ∀ y ∈ ([46, 69, 101, 43, 45] : Bytes), (y ≠ 88 ∧ y ≠ 120 ∧ y ≠ 66 ∧ y ≠ 98) ∧ y ≠ 39 ∧ y ≠ 34) x h

theorem parseNumber_run (w r : Bytes) (hw : NumRun w) (hr : SepN r) :
    parseNumber (w ++ r) = .ok { tok := goodTok 49 w, next := w.length } := by
  have hbytes := hw.byte_facts
  obtain ⟨m, f, ex, hwe, ⟨hnem, hallm⟩, hf, hex⟩ := hw
  have hlm : 1 ≤ m.length := length_pos_of_ne_nil hnem
  have hwl : w.length = m.length + f.length + ex.length := by rw [hwe]; simp; omega
  -- what follows the fraction is `e` or a separator
  have hex1 : ∀ x, (ex ++ r)[0]? = some x → isDigit x = false ∧ x ≠ 46 := by
    intro x hx
    rcases hex.first hx with rfl | rfl | ⟨_, h⟩
    · decide
    · decide
    · obtain ⟨hdig, _, _, _, _, h46, _⟩ := numSep_facts x (hr.first h)
      exact ⟨hdig, h46⟩
  -- the whole remaining input, kept opaque
  generalize hR : w ++ r = R
  have hR1 : R = m ++ (f ++ (ex ++ r)) := by rw [← hR, hwe]; simp
  have hR2 : R = (m ++ f) ++ (ex ++ r) := by rw [hR1]; simp
  have hl0 : 0 < R.length := by rw [hR1]; simp; omega
  have hds : numDigitSet R R[0] = .ok none := numDigitSet_none R _ fun x hx => by
    rw [← hR] at hx
    rcases mem_or_first w r 1 x (by omega) hx with h | h
    · exact (hbytes x h).1
    · obtain ⟨_, h88, h120, h66, h98, _⟩ := numSep_facts x (hr.first h)
      exact ⟨h88, h120, h66, h98⟩
  have hspn : spn isDigit R = m.length := by
    rw [hR1]
    exact spn_run isDigit m _ hallm fun x hx => by
      rcases hf.first hx with rfl | ⟨_, h⟩
      · decide
      · exact (hex1 x h).1
  have hdot : numDot R m.length = .ok (m.length + f.length, false) := by
    rw [hR1]; exact numDot_frac m f _ hlm hf hex1
  obtain ⟨b, hexp⟩ : ∃ b, numExp R (m.length + f.length) = .ok (w.length, b, b) := by
    rw [hR2, hwl, ← List.length_append]
    exact numExp_expo (m ++ f) ex r hex hr
  have hsuf : numSuffix R w.length = .ok w.length := numSuffix_none R _ fun x hx => by
    rw [← hR, get_app_zero] at hx
    obtain ⟨_, _, _, _, _, _, _, _, hsuffix⟩ := numSep_facts x (hr.first hx)
    exact hsuffix
  have hb : (b && !b) = false := by cases b <;> rfl
  unfold parseNumber goodTok
  simp only [at'_ok hl0, bind, Except.bind, pure, Except.pure, hds, hspn, hdot, Bool.false_eq_true, ↓reduceIte, hexp, hsuf, hb]
  have hcl := clip_le w.length
  rw [assign_ok _ _ _ _ _ (by rw [← hR]; simp; omega)]
  simp only []
  rw [← hR, List.take_append_of_le_length (by omega)]

theorem parseNumber_good (w r : Bytes) (hw : GoodNum w) (hr : SepN r) :
    parseNumber (w ++ r) = .ok { tok := { cat := 49, pos := 0, len := clip w.length, val := w.take (clip w.length) },
                                 next := w.length } := parseNumber_run w r hw.run hr

theorem parseNumber_dec (w r : Bytes) (hw : GoodDec w) (hr : Sep r) :
    parseNumber (w ++ r) = .ok { tok := { cat := 49, pos := 0, len := clip w.length, val := w.take (clip w.length) },
                                 next := w.length } := parseNumber_run w r hw.run hr.toN

theorem parseNumber_sci (w r : Bytes) (hw : GoodSci w) (hr : SepN r) :
    parseNumber (w ++ r) = .ok { tok := { cat := 49, pos := 0, len := clip w.length, val := w.take (clip w.length) },
                                 next := w.length } := parseNumber_run w r hw.run hr

/-! ## variables, punctuation, and the grammar -/

/-- the part of a variable after its `@`: an identifier, possibly with dots (`host.tld`) -/
def isVarBodyByte (c : UInt8) : Bool := isWordByteB c || c == 46
def VarBody (vw : Bytes) : Prop := ∃ c t, vw = c :: t ∧ isWordStartB c = true ∧ t.all isVarBodyByte = true

theorem varByte_facts (c : UInt8) (h : isVarBodyByte c = true) :
    notVarAccept c = true ∧ c ≠ 96 ∧ c ≠ 39 ∧ c ≠ 34 ∧ c ≠ 64 := by
  have := forall_byte (fun c => !isVarBodyByte c || (notVarAccept c && c != 96 && c != 39 && c != 34 && c != 64)) (by decide +kernel) c
  simpa [h, and_assoc] using this

theorem var_space_facts : notVarAccept 32 = false ∧ dispatch 64 = .var := by decide +kernel

theorem varBody_bytes {vw : Bytes} (h : VarBody vw) : vw.all isVarBodyByte = true ∧ 1 ≤ vw.length := by
  obtain ⟨c, t, rfl, hc, ht⟩ := h
  simp [isVarBodyByte, isWordByteB, hc, ht]

def varTok (vw : Bytes) : Token :=
  { count := 1, cat := 118, pos := 1, len := clip vw.length, val := vw.take (clip vw.length) }

theorem parseVar_good (vw r : Bytes) (hv : VarBody vw) (hr : Sep r) :
    parseVar (64 :: (vw ++ r)) = .ok { tok := varTok vw, next := 1 + vw.length } := by
  obtain ⟨hall, hlen⟩ := varBody_bytes hv
  obtain ⟨c, t, rfl, hc, _⟩ := hv
  obtain ⟨_, h96, h39, h34, h64⟩ := varByte_facts c (by simp [isVarBodyByte, isWordByteB, hc])
  have hspn := spn_run notVarAccept (c :: t) r (all_imp hall fun x hx => (varByte_facts x hx).1)
    fun d hd => by rw [hr.first hd]; exact var_space_facts.1
  have hcl := clip_le (c :: t).length
  -- the byte after `@` is `c`: no second `@`, no back-tick, no quote
  have h1 : (64 :: (c :: t ++ r))[1]? = some c := rfl
  have hat : at' (64 :: (c :: t ++ r)) 1 = .ok c := rfl
  have hsl : sliceFrom (64 :: (c :: t ++ r)) 1 = .ok (c :: t ++ r) := rfl
  have hn : 1 < (64 :: (c :: t ++ r)).length := by simp
  have e64 : ((some c : Option UInt8) == some 64) = false := by simpa using h64
  have e96 : (c == 96) = false := by simp [h96]
  have eq : (c == 39 || c == 34) = false := by simp [h39, h34]
  unfold parseVar
  simp only [h1, hn, decide_true, Bool.true_and, e64, Bool.false_eq_true, ↓reduceIte, hat, hsl, ok_bind, e96, eq, hspn]
  rw [assign_ok _ _ _ _ _ (by rw [List.length_append]; omega), List.take_append_of_le_length (by omega)]
  rfl

/-! punctuation: `,` (its own class), `?` (class `?`), `:` followed by a space (class `:`) -/
def punctTok (p : UInt8) : Token := { cat := p, pos := 0, len := 1, val := [p] }

theorem punct_dispatch : dispatch 44 = .byte ∧ dispatch 63 = .other ∧ dispatch 58 = .op2 ∧ searchKeyword [58, 32] = 0 := by
  decide +kernel

theorem runP_comma (flags : Nat) (r : Bytes) :
    runP flags (44 :: r) (dispatch 44) = .ok { tok := punctTok 44, next := 1 } := by
  rw [punct_dispatch.1]; rfl

theorem runP_qmark (flags : Nat) (r : Bytes) :
    runP flags (63 :: r) (dispatch 63) = .ok { tok := punctTok 63, next := 1 } := by
  rw [punct_dispatch.2.1]; rfl

theorem runP_colon (flags : Nat) (r : Bytes) :
    runP flags (58 :: 32 :: r) (dispatch 58) = .ok { tok := punctTok 58, next := 1 } := by
  rw [punct_dispatch.2.2.1]
  unfold runP parseOperator2
  -- no `<=>` here, and `: ` is no two-byte operator of the table
  have hand : (g (2 < (58 :: 32 :: r).length) <&&> byteIs (58 :: 32 :: r) 0 60 <&&> byteIs (58 :: 32 :: r) 1 61 <&&>
      byteIs (58 :: 32 :: r) 2 62) = .ok false := by
    cases r <;> rfl
  have hsl : slice (58 :: 32 :: r) 0 2 = .ok [58, 32] := rfl
  simp only [hand, hsl, ok_bind, punct_dispatch.2.2.2]
  rfl

/-- the benign texts: good words, numbers (unsigned integers, decimals, exponent notation), dotted identifiers, `@`
variables and the marks `,` `?` `: `. Each word, number or variable is followed by end of input or a space (`Sep`); a word
or an integer may instead be followed directly by a separator byte (`wordAt`, `dottedAt`, `numAt`: `name@host.tld`,
`a, b`); spaces may repeat -/
inductive Txt : Bytes → Prop
  | nil : Txt []
  | space {r : Bytes} : Txt r → Txt (32 :: r)
  | word {w r : Bytes} : (GoodWord w ∨ GoodNum w) → Sep r → Txt r → Txt (w ++ r)
  | wordAt {w r : Bytes} {sp : UInt8} : GoodWord w → isSepByte sp = true → Txt (sp :: r) → Txt (w ++ sp :: r)
  | var {vw r : Bytes} : VarBody vw → Sep r → Txt r → Txt (64 :: (vw ++ r))
  | dec {w r : Bytes} : GoodDec w → Sep r → Txt r → Txt (w ++ r)
  | sci {w r : Bytes} : GoodSci w → Sep r → Txt r → Txt (w ++ r)
  | dotted {w r : Bytes} : GoodDotted w → Sep r → Txt r → Txt (w ++ r)
  | dottedAt {w r : Bytes} {sp : UInt8} : GoodDotted w → isSepByte sp = true → Txt (sp :: r) → Txt (w ++ sp :: r)
  | punct {p : UInt8} {r : Bytes} : (p = 44 ∨ p = 63) → Txt r → Txt (p :: r)
  | numAt {w r : Bytes} {sp : UInt8} : GoodNum w → isNumSep sp = true → Txt (sp :: r) → Txt (w ++ sp :: r)
  | colon {r : Bytes} : Txt r → Txt (58 :: 32 :: r)

/-- the lexer selected by the first byte of `l` yields one benign token and stops in front of a text -/
def LexesBenign (flags : Nat) (l : Bytes) : Prop :=
  ∃ c tok n, l[0]? = some c ∧ runP flags l (dispatch c) = .ok { tok := tok, next := n } ∧ 1 ≤ n ∧
    (∀ p, BenignTok { tok with pos := p }) ∧ Txt (l.drop n)

theorem clip_of_ge {n : Nat} (h : 32 ≤ n) : clip n = 31 := by
  unfold clip tokenSize
  simp only [Gen.tokenSize]
  have : ¬ n < 32 := by omega
  simp [this]

theorem lexes_wordRun (flags : Nat) {w r : Bytes} (hw : WordRun w) (hr : SepW r) (htxt : Txt r) :
    LexesBenign flags (w ++ r) := by
  have hlen := hw.length_pos
  obtain ⟨c, t, hwe, _⟩ := hw.start
  refine ⟨c, goodTok 110 w, w.length, by rw [hwe]; rfl, runP_run flags w r hw hr c (by rw [hwe]; rfl), hlen,
    fun p => .word rfl (clip_pos hlen) ?_, by rw [List.drop_left]; exact htxt⟩
  -- the value fills the clip, or it is the whole run, which starts no phrase
  show clip w.length = 31 ∨ PhraseFree (w.take (clip w.length))
  by_cases hl : w.length ≤ 31
  · right
    rw [clip_of_lt (by omega), List.take_length]
    exact hw.phrase hl
  · exact Or.inl (clip_of_ge (by omega))

theorem lexes_numRun (flags : Nat) {w r : Bytes} (hw : NumRun w) (hr : SepN r) (htxt : Txt r) :
    LexesBenign flags (w ++ r) := by
  obtain ⟨c, t, hwe, hd⟩ : ∃ c t, w = c :: t ∧ isDigit c = true := by
    obtain ⟨m, f, ex, rfl, ⟨hne, hall⟩, _⟩ := hw
    obtain ⟨c, t, rfl⟩ := List.exists_cons_of_ne_nil hne
    exact ⟨c, _, rfl, by simp only [List.all_cons, Bool.and_eq_true] at hall; exact hall.1⟩
  refine ⟨c, goodTok 49 w, w.length, by rw [hwe]; rfl, ?_, by rw [hwe]; simp, fun p => .of_cat 49 rfl,
    by rw [List.drop_left]; exact htxt⟩
  rw [dispatch_digit c hd]
  exact parseNumber_run w r hw hr

theorem txt_head (flags : Nat) : ∀ {l : Bytes}, Txt l → l = [] ∨ LexesBenign flags l
  | _, .nil => Or.inl rfl
  | _, .space hr => Or.inr ⟨32, {}, 1, rfl, by rw [dispatch_space]; rfl, Nat.le_refl _, fun p => .of_cat 0 rfl, hr⟩
  | _, .word (Or.inl hw) hsep hr => Or.inr (lexes_wordRun flags hw.run hsep.toW hr)
  | _, .word (Or.inr hw) hsep hr => Or.inr (lexes_numRun flags hw.run hsep.toN hr)
  | _, .wordAt hw hsp hr => Or.inr (lexes_wordRun flags hw.run (Or.inr ⟨_, _, rfl, hsp⟩) hr)
  | _, .dotted hw hsep hr => Or.inr (lexes_wordRun flags hw.run hsep.toW hr)
  | _, .dottedAt hw hsp hr => Or.inr (lexes_wordRun flags hw.run (Or.inr ⟨_, _, rfl, hsp⟩) hr)
  | _, .numAt hw hsp hr => Or.inr (lexes_numRun flags hw.run (Or.inr ⟨_, _, rfl, hsp⟩) hr)
  | _, .dec hw hsep hr => Or.inr (lexes_numRun flags hw.run hsep.toN hr)
  | _, .sci hw hsep hr => Or.inr (lexes_numRun flags hw.run hsep.toN hr)
  | _, .var (vw := vw) (r := r) hv hsep hr => Or.inr ⟨64, varTok vw, 1 + vw.length, rfl,
      by rw [var_space_facts.2]; exact parseVar_good vw r hv hsep, by omega, fun p => .of_cat 118 rfl,
      by rw [Nat.add_comm]; exact (List.drop_left (l₁ := 64 :: vw)) ▸ hr⟩
  | _, .punct (r := r) hp hr => by
    rcases hp with rfl | rfl
    · exact Or.inr ⟨44, punctTok 44, 1, rfl, runP_comma flags r, Nat.le_refl _, fun p => .of_cat 44 rfl, hr⟩
    · exact Or.inr ⟨63, punctTok 63, 1, rfl, runP_qmark flags r, Nat.le_refl _, fun p => .of_cat 63 rfl, hr⟩
  | _, .colon hr => Or.inr ⟨58, punctTok 58, 1, rfl, runP_colon flags _, Nat.le_refl _, fun p => .of_cat 58 rfl,
      Txt.space hr⟩

/-- the scanner state after the lexer at the cursor has returned `r` -/
def scanStep (s : State) (r : Lex) : State :=
  { s with tv := s.tv.set s.cur { r.tok with pos := r.tok.pos + s.pos }, pos := s.pos + r.next, ddx := s.ddx + r.ddx,
           hash := s.hash + r.hash }

theorem tokLoop_step (s : State) (fuel : Nat) (c : UInt8) (r : Lex) (h0 : (s.input.drop s.pos)[0]? = some c)
    (hc : s.cur < s.tv.length) (hrun : runP s.flags (s.input.drop s.pos) (dispatch c) = .ok r) :
    tokLoop s (fuel + 1) =
      if (r.tok.cat != 0) = true then .ok (true, { scanStep s r with toks := s.toks + 1 }) else tokLoop (scanStep s r) fuel := by
  have hl0 : 0 < (s.input.drop s.pos).length := first_lt h0
  have hlt : s.pos < s.input.length := by rw [List.length_drop] at hl0; omega
  have hc0 : (s.input.drop s.pos)[0] = c := by
    rw [List.getElem?_eq_getElem hl0] at h0; exact Option.some.inj h0
  rw [tokLoop]
  simp only [hlt, ↓reduceIte, sliceFrom_ok s.input s.pos (Nat.le_of_lt hlt), at'_ok hl0, hc0, hrun, tvSet_ok s s.cur _ hc,
    bind, Except.bind, pure, Except.pure]
  rfl

/-- no virtual opening quote (the as-is readings) -/
def NoQ (flags : Nat) : Prop := (hasFlag flags flagQuoteSingle || hasFlag flags flagQuoteDouble) = false

/-- the scanner on a benign text: what remains to be scanned is a text, every token stored so far is benign, and no
`#`/`--` comment was counted -/
def ScanOK (s : State) : Prop :=
  s.tv.length = 8 ∧ Txt (s.input.drop s.pos) ∧ NoQ s.flags ∧ s.ddx = 0 ∧ s.hash = 0 ∧ ∀ t ∈ s.tv, BenignTok t

theorem ScanOK.len {s : State} (h : ScanOK s) : s.tv.length = 8 := h.1
theorem ScanOK.txt {s : State} (h : ScanOK s) : Txt (s.input.drop s.pos) := h.2.1
theorem ScanOK.noq {s : State} (h : ScanOK s) : NoQ s.flags := h.2.2.1
theorem ScanOK.benign {s : State} (h : ScanOK s) : ∀ t ∈ s.tv, BenignTok t := h.2.2.2.2.2

theorem ScanOK.set {s : State} (hs : ScanOK s) {t : Token} (ht : BenignTok t) : ScanOK { s with tv := s.tv.set s.cur t } := by
  obtain ⟨hlen, htxt, hq, hd, hh, hb⟩ := hs
  refine ⟨List.length_set.trans hlen, htxt, hq, hd, hh, fun t' ht' => ?_⟩
  rcases List.mem_or_eq_of_mem_set ht' with h | rfl
  · exact hb t' h
  · exact ht

theorem ScanOK.get {s : State} (hs : ScanOK s) {i : Nat} (hi : i < 8) : ∃ t, tvGet s i = .ok t ∧ BenignTok t := by
  have hlt : i < s.tv.length := hs.len ▸ hi
  exact ⟨s.tv[i], tvGet_of_some (List.getElem?_eq_getElem hlt), hs.benign _ (List.getElem_mem hlt)⟩

theorem tokLoop_txt (fuel : Nat) : ∀ (s : State), ScanOK s → s.cur < 8 → s.input.length - s.pos < fuel →
    ∃ more s', tokLoop s fuel = .ok (more, s') ∧ ScanOK s' ∧ s'.cur = s.cur := by
  induction fuel with
  | zero => intro s _ _ hf; omega
  | succ fuel ih =>
    intro s hs hc hf
    rcases txt_head s.flags hs.txt with hd | ⟨c, tok, n, h0, hrun, hn, hben, hrest⟩
    · have hge : ¬ s.pos < s.input.length := Nat.not_lt.mpr (List.drop_eq_nil_iff.mp hd)
      rw [tokLoop]
      simp only [hge, ↓reduceIte, pure, Except.pure]
      exact ⟨false, s, rfl, hs, rfl⟩
    · have hlt : s.pos < s.input.length := by
        have := first_lt h0
        rw [List.length_drop] at this; omega
      rw [tokLoop_step s fuel c _ h0 (hs.len ▸ hc) hrun]
      rw [List.drop_drop] at hrest
      -- the state after this token: the scan stands before the rest of the text
      have hs1 : ScanOK (scanStep s { tok := tok, next := n }) := by
        obtain ⟨hlen, _, rest⟩ := hs.set (hben (tok.pos + s.pos))
        exact ⟨hlen, hrest, rest⟩
      by_cases hcat : (tok.cat != 0) = true
      · rw [if_pos hcat]
        exact ⟨true, _, rfl, hs1, rfl⟩
      · rw [if_neg hcat]
        exact ih _ hs1 hc (by show s.input.length - (s.pos + n) < fuel; omega)

theorem tokenize_txt (s : State) (hs : ScanOK s) (hc : s.cur < 8) :
    ∃ more s', tokenize s = .ok (more, s') ∧ ScanOK s' ∧ s'.cur = s.cur := by
  unfold tokenize
  by_cases he : (s.input.length == 0) = true
  · simp only [he, ↓reduceIte, pure, Except.pure]
    exact ⟨false, s, rfl, hs, rfl⟩
  · have hq : (hasFlag s.flags flagQuoteSingle || hasFlag s.flags flagQuoteDouble) = false := hs.noq
    simp only [he, Bool.false_eq_true, ↓reduceIte, tvSet_ok s s.cur _ (hs.len ▸ hc), bind, Except.bind, hq,
      Bool.and_false]
    exact tokLoop_txt (s.input.length + 1) _ (hs.set (.of_cat 0 rfl)) hc (by show s.input.length - s.pos < s.input.length + 1; omega)

theorem fetch_txt (k : Nat) (fuel : Nat) : ∀ (f f' : FS), ScanOK f.s → BenignTok f.lastComment → fetch f k fuel = .ok f' →
    ScanOK f'.s ∧ BenignTok f'.lastComment := by
  induction fuel with
  | zero => intro f f' _ _ h; simp [fetch] at h
  | succ fuel ih =>
    intro f f' hs hb h
    unfold fetch at h
    by_cases hc : (f.more && decide (f.pos ≤ maxTokens) && decide (f.pos - f.left < k)) = true
    · have hp5 : f.pos ≤ 5 := by
        simp only [Bool.and_eq_true, decide_eq_true_eq] at hc; exact hc.1.2
      obtain ⟨more, s', hr, hs', hcur⟩ := tokenize_txt { f.s with cur := f.pos } hs (by show f.pos < 8; omega)
      simp only [hc, ↓reduceIte, hr, bind, Except.bind] at h
      cases more with
      | false =>
        simp only [Bool.false_eq_true, ↓reduceIte] at h
        exact ih { f with s := s', more := false } f' hs' hb h
      | true =>
        -- the token just stored is benign, so it is no comment
        obtain ⟨t, hget, hbt⟩ := hs'.get (i := s'.cur) (by rw [hcur]; show f.pos < 8; omega)
        simp only [↓reduceIte, hget, hbt.ne 99, Bool.false_eq_true] at h
        exact ih { f with s := s', more := true, lastComment := { f.lastComment with cat := 0 }, pos := f.pos + 1 } f' hs'
          (.of_cat 0 rfl) h
    · simp only [hc, Bool.false_eq_true, ↓reduceIte, pure, Except.pure, Except.ok.injEq] at h
      rw [← h]; exact ⟨hs, hb⟩

end LibInj.Sqli
