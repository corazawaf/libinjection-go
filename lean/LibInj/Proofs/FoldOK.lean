import LibInj.Proofs.FoldLoop
/-! Safety and termination of `fold` (C01): no index, slice, token-vector or negative-length error,
and the fuel of every loop suffices. Parts: `FoldBase` (token facts, invariants), `FoldRel` (measure,
window relation), `FoldFetch`, `FoldRules` (two- and three-token rules), `FoldLoop`. -/
namespace LibInj.Sqli
open LibInj

/-- **`fold` is total**: from a state satisfying the scanner invariant whose window is empty beyond
slot 0 (in particular the initial state) it returns a token count `≤ 7` -/
theorem fold_ok (s : State) (hs : SInv s) (hz : ∀ j t, j ≠ 0 → s.tv[j]? = some t → t.cat = 0) :
    ∃ n s', fold s = .ok (n, s') ∧ SInv s' ∧ s'.input = s.input ∧ n ≤ 7 ∧ (n ≠ 0 → XFin s') := by
  unfold fold
  obtain ⟨more, s1, h1, hs1, hi1, hc1, hpost⟩ := skipLoop_ok (s.input.length + 2) { s with cur := 0 }
    ⟨hs.1, hs.2.1, hs.2.2⟩ rfl hz (by show s.input.length - s.pos + 1 < s.input.length + 2; omega)
  simp only [h1, bind, Except.bind, pure, Except.pure]
  cases more with
  | false =>
    simp only [Bool.not_false, ↓reduceIte]
    exact ⟨_, _, rfl, hs1, hi1, by omega, fun h => absurd rfl h⟩
  | true =>
    simp only [Bool.not_true, Bool.false_eq_true, ↓reduceIte]
    obtain ⟨p1, p2, p3⟩ := hpost rfl
    have hf0 : FInv { s := s1, pos := 1, left := 0, more := true, lastComment := {} } :=
      ⟨hs1, Nat.zero_le _, by show 1 ≤ 6; omega, tokF_default⟩
    have hx0 : XInv { s := s1, pos := 1, left := 0, more := true, lastComment := {} } := by
      have hnc : ¬ hasCom { s := s1, pos := 1, left := 0, more := true, lastComment := {} } := by
        rintro ⟨u, hu, h99⟩
        rcases hu with hu | hu
        · exact p2 u hu h99
        · rw [hu] at h99; exact absurd (show (({} : Token).cat = 99) from h99) (by decide)
      exact ⟨p1, fun _ => hnc, fun _ t ht hn => ⟨p3 t ht hn, fun hc => absurd hc hnc⟩⟩
    have hfuel : loopT { s := s1, pos := 1, left := 0, more := true, lastComment := {} } < foldFuel s1.input.length := by
      have hm := mu_le { s := s1, pos := 1, left := 0, more := true, lastComment := {} } (by show 1 ≤ 6; omega)
      unfold loopT bigM foldFuel
      simp only [↓reduceIte]
      have : (s1.input.length - s1.pos) * 1015 ≤ 1015 * s1.input.length := by
        have : s1.input.length - s1.pos ≤ s1.input.length := Nat.sub_le _ _
        omega
      omega
    obtain ⟨n, f', h2, h3, h4, h5, h6⟩ := foldLoop_ok (foldFuel s1.input.length) _ hf0 hfuel
    simp only [h2]
    exact ⟨_, _, rfl, h3, by rw [h4]; exact hi1, h5, fun _ => h6 hx0⟩

end LibInj.Sqli
