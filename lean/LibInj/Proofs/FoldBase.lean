import LibInj.Proofs.TokenizeOK
import LibInj.Proofs.Phrase
/-! Safety of `fold`, part 1: token facts, the scanner/loop invariants (C01). -/
namespace LibInj.Sqli
open LibInj

/-- what `fold`'s accesses need from a token in the window -/
def TokF (t : Token) : Prop := TokInv t ∧ CatOK t

theorem tokF_default : TokF ({} : Token) := tokInv_empty

theorem TokF.recat {t : Token} (h : TokF t) (c : UInt8) (hc : CatV c t.len) : TokF { t with cat := c } :=
  ⟨h.1, hc⟩

theorem valOf_ok (t : Token) (h : TokF t) : valOf t = .ok t.val := by
  obtain ⟨⟨hv, hl⟩, _⟩ := h
  unfold valOf
  rw [slice_ok t.val 0 t.len (by omega) (by omega)]
  simp [← hv]

theorem isUnaryOp_ok (t : Token) (h : TokF t) : ∃ b, t.isUnaryOp = .ok b := by
  obtain ⟨⟨hv, hl⟩, _⟩ := h
  unfold Token.isUnaryOp
  by_cases hc : (t.cat != 111) = true
  · simp [hc, pure, Except.pure]
  · simp only [hc, Bool.false_eq_true, ↓reduceIte, bind, Except.bind, pure, Except.pure]
    split
    · rename_i h1
      simp only [at'_ok (show 0 < t.val.length by omega)]
      exact ⟨_, rfl⟩
    · rename_i h2
      simp only [andM, toBool, byteIs, at'_ok (show 0 < t.val.length by omega), at'_ok (show 1 < t.val.length by omega),
        bind, Except.bind, pure, Except.pure]
      split <;> exact ⟨_, rfl⟩
    · rename_i h3
      simp only [slice_ok t.val 0 3 (by omega) (by omega)]
      exact ⟨_, rfl⟩
    · exact ⟨_, rfl⟩

theorem isArithmeticOp_ok (t : Token) (h : TokF t) : ∃ b, t.isArithmeticOp = .ok b := by
  obtain ⟨⟨hv, hl⟩, _⟩ := h
  unfold Token.isArithmeticOp
  by_cases hc : (t.cat == 111 && t.len == 1) = true
  · have h1 : t.len = 1 := by simp only [Bool.and_eq_true, beq_iff_eq] at hc; exact hc.2
    simp only [hc, ↓reduceIte, at'_ok (show 0 < t.val.length by omega), bind, Except.bind, pure, Except.pure]
    exact ⟨_, rfl⟩
  · simp only [hc, Bool.false_eq_true, ↓reduceIte, pure, Except.pure]
    exact ⟨_, rfl⟩

theorem merge_ok (a b : Token) (ha : TokF a) (hb : TokF b) :
    ∃ r, merge a b = .ok r ∧ ∀ a', r = some a' → TokF a' ∧ (a'.cat ≠ 49 ∧ a'.cat ≠ 92 ∧ a'.cat ≠ 99) := by
  unfold merge
  simp only [bind, Except.bind, pure, Except.pure]
  split
  · exact ⟨none, rfl, fun a' h => by cases h⟩
  · split
    · exact ⟨none, rfl, fun a' h => by cases h⟩
    · split
      · exact ⟨none, rfl, fun a' h => by cases h⟩
      · simp only [show slice a.val 0 a.len = .ok a.val from valOf_ok a ha, show slice b.val 0 b.len = .ok b.val from valOf_ok b hb]
        split
        · rename_i hch
          have hcl := clip_le (a.val ++ [32] ++ b.val).length
          rw [assign_ok _ _ _ _ _ hcl]
          refine ⟨_, rfl, fun a' h => ?_⟩
          cases h
          generalize htmp : a.val ++ [32] ++ b.val = tmp at hch hcl ⊢
          have h32 : (32 : UInt8) ∈ tmp := by rw [← htmp]; simp
          refine ⟨⟨⟨by simp [List.length_take]; omega, clip_le_31 _⟩, ?_⟩, searchKeyword_phrase tmp h32⟩
          rcases searchKeyword_cases tmp with h0 | ⟨hc1, hc2, hc3⟩
          · rw [h0] at hch; simp at hch
          · exact ⟨Or.inr hc1, (fun h => clip_two (hc2 h)), (fun _ => clip_pos hc3)⟩
        · exact ⟨none, rfl, fun a' h => by cases h⟩
/-- invariant of the scanner state inside `fold` -/
def SInv (s : State) : Prop :=
  s.tv.length = 8 ∧ s.pos ≤ s.input.length ∧ ∀ t ∈ s.tv, TokF t

/-- invariant of the loop variables of `fold` -/
def FInv (f : FS) : Prop := SInv f.s ∧ f.left ≤ f.pos ∧ f.pos ≤ 6 ∧ TokF f.lastComment

theorem tvGet_ok (s : State) (hs : SInv s) (i : Nat) (hi : i < 8) : ∃ t, tvGet s i = .ok t ∧ TokF t := by
  have hlt : i < s.tv.length := by rw [hs.1]; exact hi
  exact ⟨_, tvGet_of_some (List.getElem?_eq_getElem hlt), hs.2.2 _ (List.getElem_mem hlt)⟩

theorem sinv_set {s : State} (hs : SInv s) (i : Nat) {t : Token} (ht : TokF t) : SInv { s with tv := s.tv.set i t } := by
  refine ⟨by simp; exact hs.1, hs.2.1, fun x hx => ?_⟩
  rcases List.mem_or_eq_of_mem_set hx with h | h
  · exact hs.2.2 x h
  · rw [h]; exact ht

theorem tvSet_sinv {s : State} (hs : SInv s) {i : Nat} (hi : i < 8) (t : Token) :
    tvSet s i t = .ok { s with tv := s.tv.set i t } :=
  tvSet_ok s i t (by rw [hs.1]; exact hi)

theorem special5_ok (s : State) (hs : SInv s) : ∃ b, special5 s = .ok b := by
  unfold special5
  obtain ⟨t0, h0, _⟩ := tvGet_ok s hs 0 (by omega)
  obtain ⟨t1, h1, _⟩ := tvGet_ok s hs 1 (by omega)
  obtain ⟨t2, h2, _⟩ := tvGet_ok s hs 2 (by omega)
  obtain ⟨t3, h3, _⟩ := tvGet_ok s hs 3 (by omega)
  obtain ⟨t4, h4, _⟩ := tvGet_ok s hs 4 (by omega)
  simp only [h0, h1, h2, h3, h4, bind, Except.bind, pure, Except.pure]
  exact ⟨_, rfl⟩

theorem mem_of_step {s s' : State} {more : Bool} (h : TokStep s more s') (t : Token) (ht : t ∈ s'.tv) :
    t ∈ s.tv ∨ s'.tv[s.cur]? = some t := by
  obtain ⟨j, hj, hjt⟩ := List.mem_iff_getElem.mp ht
  have hget : s'.tv[j]? = some t := by rw [List.getElem?_eq_getElem hj, hjt]
  by_cases hjc : j = s.cur
  · right; rw [← hjc]; exact hget
  · left
    rw [h.2.2.2.2.2.2.1 j hjc] at hget
    exact List.mem_of_getElem? hget

theorem tokenize_sinv (s : State) (hs : SInv s) (hc : s.cur < 8) :
    ∃ more s', tokenize s = .ok (more, s') ∧ SInv s' ∧ TokStep s more s' := by
  have hcur : s.cur < s.tv.length := by rw [hs.1]; exact hc
  obtain ⟨more, s', hr, hstep⟩ := tokenize_ok s hs.2.1 hcur
  refine ⟨more, s', hr, ?_, hstep⟩
  obtain ⟨q1, _, _, q4, _, q6, _, _, _, q10, _⟩ := id hstep
  refine ⟨by rw [q4]; exact hs.1, by rw [q1]; exact q6, fun t ht => ?_⟩
  rcases mem_of_step hstep t ht with h | h
  · exact hs.2.2 t h
  · exact (q10 t h).elim id fun h => hs.2.2 t (List.mem_of_getElem? h)

theorem tvGet_some {s : State} {i : Nat} {t : Token} (h : tvGet s i = .ok t) : s.tv[i]? = some t := by
  unfold tvGet at h
  cases hq : s.tv[i]? with
  | none => simp [hq] at h
  | some x => simp only [hq, Except.ok.injEq] at h; rw [h]

theorem tvSet_eq {s s' : State} {i : Nat} {t : Token} (h : tvSet s i t = .ok s') :
    s' = { s with tv := s.tv.set i t } := by
  unfold tvSet at h
  split at h
  · simp only [Except.ok.injEq] at h; exact h.symm
  · cases h

end LibInj.Sqli
