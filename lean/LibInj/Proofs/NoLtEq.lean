import LibInj.Proofs.H5Good
/-! Without `<` and `=` the machine only ever emits attribute names, tag closers and text (C15). -/
namespace LibInj.H5
open LibInj

def NoLtEq (s : Bytes) : Prop := (60 : UInt8) ∉ s ∧ (61 : UInt8) ∉ s

/-- token types that can never make `xssLoop` return true (an attribute name only sets `attr`) -/
def SafeTy (t : Ty) : Prop := t = .attrName ∨ t = .tagNameClose ∨ t = .tagNameSelfClose ∨ t = .dataText

/-- states reachable without `<` and `=` (after the initial step) -/
def SafeSt (st : St) : Prop :=
  st = .beforeAttrName ∨ st = .afterAttrName ∨ st = .selfClosing ∨ st = .tagNameClose ∨ st = .data ∨ st = .eof ∨
  st = .afterAttrValueQuoted

def Shape (r : M (Bool × H)) : Prop := ∀ b h', r = .ok (b, h') → b = true → SafeTy h'.tokType ∧ SafeSt h'.state

theorem shape_false (h : H) : Shape (.ok (false, h)) := by
  intro b h' hr hb; cases hr; cases hb

theorem shape_error (e : Err) : Shape (.error e) := fun _ _ hr => nomatch hr

theorem shape_ok (b : Bool) {x : H} (hty : SafeTy x.tokType) (hst : SafeSt x.state) : Shape (.ok (b, x)) := by
  intro b h' hr _; cases hr; exact ⟨hty, hst⟩

theorem shape_emit (b : Bool) {h : H} {a l p : Nat} {ty : Ty} {st : St} (hty : SafeTy ty) (hst : SafeSt st) :
    Shape (.ok (b, emit h a l ty p st)) :=
  shape_ok b hty hst

theorem stateData_shape (d : Nat) (h : H) (hs : NoLtEq h.s) (hp : h.pos ≤ h.s.length) : Shape (stateData (d + 1) h) :=
  stateData_cases (P := Shape) d h hp (fun _ => shape_ok _ (by simp [SafeTy]) (by simp [SafeSt]))
    (fun hlt => absurd (List.mem_of_getElem? hlt) hs.1) (fun i _ _ hlt => absurd (List.mem_of_getElem? hlt) hs.1)

theorem stateTagNameClose_shape (h : H) (hp : h.pos < h.s.length) : Shape (stateTagNameClose h) := by
  unfold stateTagNameClose
  rw [offFrom_ok (Nat.le_of_lt hp)]
  refine shape_ok _ (by simp [SafeTy]) ?_
  simp only [SafeSt]
  split <;> simp

theorem stateAttributeName_shape (h : H) (hs : NoLtEq h.s) (hp : h.pos < h.s.length) : Shape (stateAttributeName h) :=
  stateAttributeName_cases (P := Shape) h (Nat.le_of_lt hp) (shape_emit _ (.inl rfl) (by simp [SafeSt]))
    (fun _ _ _ => shape_emit _ (.inl rfl) (by simp [SafeSt])) (fun _ _ _ => shape_emit _ (.inl rfl) (by simp [SafeSt]))
    (fun _ _ h61 => absurd (List.mem_of_getElem? h61) hs.2) (fun _ _ _ => shape_emit _ (.inl rfl) (by simp [SafeSt]))

theorem SC_BAN_shape : ∀ (d : Nat) (h : H), NoLtEq h.s →
    (1 ≤ h.pos → Shape (stateSelfClosingStartTag d h)) ∧ (h.pos ≤ h.s.length → Shape (stateBeforeAttributeName d h))
  | 0, _, _ => ⟨fun _ => shape_error _, fun _ => shape_error _⟩
  | d + 1, h, hs => by
    refine ⟨fun h1 => ?_, fun hp => ?_⟩
    · exact stateSelfClosingStartTag_cases (P := Shape) d h h1 (fun _ => shape_false h)
        (fun _ _ => shape_emit _ (by simp [SafeTy]) (by simp [SafeSt]))
        (fun hlt _ => (SC_BAN_shape d h hs).2 (Nat.le_of_lt hlt))
    · exact stateBeforeAttributeName_cases (P := Shape) d h hp
        (fun h1 e hlt _ _ => (SC_BAN_shape d h1 (e ▸ hs)).1 (by omega)) (fun h1 _ _ _ => shape_false h1)
        (fun h1 _ _ _ => shape_emit _ (by simp [SafeTy]) (by simp [SafeSt]))
        (fun h1 e _ hlt => stateAttributeName_shape h1 (e ▸ hs) (e ▸ hlt))

theorem stateAfterAttributeName_shape (h : H) (hs : NoLtEq h.s) (hp : h.pos ≤ h.s.length) :
    Shape (stateAfterAttributeName h) :=
  stateAfterAttributeName_cases (P := Shape) h hp (fun _ _ _ => shape_false _)
    (fun p _ _ => (SC_BAN_shape callDepth { h with pos := p + 1 } hs).1 (Nat.succ_pos _))
    (fun _ _ _ h61 => absurd (List.mem_of_getElem? h61) hs.2)
    (fun p _ h2 => stateTagNameClose_shape { h with pos := p } h2)
    (fun p _ h2 => stateAttributeName_shape { h with pos := p } hs h2)

theorem stateAfterAttributeValueQuotedState_shape (h : H) (hs : NoLtEq h.s) :
    Shape (stateAfterAttributeValueQuotedState h) :=
  stateAfterAttributeValueQuotedState_cases (P := Shape) h (fun _ => shape_false h)
    (fun hlt => (SC_BAN_shape callDepth { h with pos := h.pos + 1 } hs).2 hlt)
    (fun _ => (SC_BAN_shape callDepth { h with pos := h.pos + 1 } hs).1 (Nat.succ_pos _))
    (fun _ => shape_emit _ (by simp [SafeTy]) (by simp [SafeSt]))
    (fun hlt => (SC_BAN_shape callDepth h hs).2 (Nat.le_of_lt hlt))

theorem next_shape (h : H) (hs : NoLtEq h.s) (hi : Inv h) (hst : SafeSt h.state) : Shape (next h) := by
  unfold next
  rcases hst with hst | hst | hst | hst | hst | hst | hst <;> rw [hst] <;> simp only []
  · exact (SC_BAN_shape callDepth h hs).2 hi.1
  · exact stateAfterAttributeName_shape h hs hi.1
  · exact (SC_BAN_shape callDepth h hs).1 (hi.2.1 hst)
  · exact stateTagNameClose_shape h (hi.2.2.1 hst)
  · exact stateData_shape _ h hs hi.1
  · exact shape_false h
  · exact stateAfterAttributeValueQuotedState_shape h hs

end LibInj.H5
