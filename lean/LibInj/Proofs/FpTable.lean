import LibInj.Proofs.Phrase
import LibInj.Sqli.Check
/-! Fingerprint keys of the regenerated keyword table: the table facts of `Proofs/KwTable` restated for the key
a look-up matched — the shape of blacklisted keys (C01, C08) and the absence of keys made only of `N`, `1`, `V`,
`,`, `?`, `:` (C14). -/
namespace LibInj.Sqli
open LibInj LibInj.Tables

/-- table fact: a key with class `F` is `0` followed by 1..5 upper-cased class characters, the
comment class only in last position (`kwOK`, `commentOnlyLast` of C20, restated for the matched key) -/
theorem blacklisted_key_shape (l n : Nat) (h : lookupKw l n = some 70) :
    2 ≤ l ∧ l ≤ 6 ∧ fpBytes (l - 1) n = true ∧ noByte 67 (l - 1) (n / 256) = true := by
  have h1 := kw_fact kw_wf h
  have h2 := kw_fact kw_comment h
  simp only [kwOK, commentOnlyLast, Nat.beq_refl, Bool.not_true, Bool.false_or, Bool.and_eq_true, Nat.ble_eq] at h1 h2
  exact ⟨h1.1.2.1.1, h1.1.2.1.2, h1.1.2.2, h2⟩


/-- reading the key `"0" ++ us` byte by byte from its low end: a checker `q` of the shape of `fpBytes`,
`n1Key` tests every byte of `us` -/
theorem lowBytes_keyNat (p : Nat → Bool) (q : Nat → Nat → Bool) (h0 : ∀ n, q 0 n = Nat.beq n 48)
    (hs : ∀ k n, q (k + 1) n = (p (n % 256) && q k (n / 256))) (us : Bytes) :
    q us.length (keyNat (48 :: us)) = us.all fun u => p u.toNat := by
  suffices h : ∀ r : Bytes, q r.length (keyNat (48 :: r.reverse)) = r.all fun u => p u.toNat by
    simpa using h us.reverse
  intro r
  induction r with
  | nil => exact h0 48
  | cons c r ih =>
    have e : (48 : UInt8) :: (c :: r).reverse = (48 :: r.reverse) ++ [c] := by simp
    rw [e, List.length_cons, hs, keyNat_mod, keyNat_div, ih, List.all_cons]


theorem goUpper_plain : ∀ (w : Bytes), (∀ c ∈ w, c ≠ 0xC4 ∧ c ≠ 0xC5) → goUpper w = w.map upperAscii
  | [], _ => rfl
  | c :: t, h => by
    have hc := h c List.mem_cons_self
    rw [goUpper_cons_generic c t (fun hh => hc.1 hh.1) (fun hh => hc.2 hh.1),
      goUpper_plain t (fun x hx => h x (List.mem_cons_of_mem _ hx))]
    rfl

theorem class_byte (p : UInt8 → Bool)
    (hp : (List.range 256).all (fun n => !(n.toUInt8 == 0 || isClassU8 n.toUInt8) || p n.toUInt8) = true)
    (c : UInt8) (h : c = 0 ∨ isClassU8 c = true) : p c = true := by
  have := forall_byte (fun c => !(c == 0 || isClassU8 c) || p c) hp c
  rcases h with h | h <;> simpa [h] using this

theorem class_upper (c : UInt8) (h : c = 0 ∨ isClassU8 c = true) :
    upperAscii c ≠ 0xC4 ∧ upperAscii c ≠ 0xC5 ∧ upperAscii (upperAscii c) = upperAscii c := by
  have := class_byte (fun c => upperAscii c != 0xC4 && upperAscii c != 0xC5 && upperAscii (upperAscii c) == upperAscii c)
    (by decide +kernel) c h
  simpa [and_assoc] using this

theorem class_CU (c : UInt8) (h : c = 0 ∨ isClassU8 c = true) (hu : upperAscii c = 67 ∨ upperAscii c = 85) :
    c = 99 ∨ c = 85 := by
  have := class_byte (fun c => !(upperAscii c == 67 || upperAscii c == 85) || (c == 99 || c == 85)) (by decide +kernel) c h
  rcases hu with hu | hu <;> simpa [hu] using this

theorem class_of_upper (c : UInt8) (h : c = 0 ∨ isClassU8 c = true) (hu : isClassUpper (upperAscii c).toNat = true) :
    isClassU8 c = true := by
  have := class_byte (fun c => !isClassUpper (upperAscii c).toNat || isClassU8 c) (by decide +kernel) c h
  simpa [hu] using this

theorem searchKeyword_lookup (w : Bytes) (c : UInt8) (hc : c ≠ 0) (h : searchKeyword w = c) :
    lookupKw (goUpper w).length (keyNat (goUpper w)) = some c.toNat := by
  rcases searchKeyword_found w with h0 | ⟨v, hl, hv⟩
  · exact absurd (h.symm.trans h0) hc
  · have hv128 := kw_fact keywords_valOK hl
    simp only [valOK, Bool.and_eq_true, Nat.blt_eq] at hv128
    have hv128 : v < 128 := hv128.1.1.1
    rw [hl, ← h, hv]
    simp only [Nat.toUInt8, UInt8.toNat_ofNat']
    congr 1; omega

theorem fp_lookup (fp : Bytes) (hcls : ∀ c ∈ fp, c = 0 ∨ isClassU8 c = true) (hb : searchKeyword (fpKey fp) = 70) :
    lookupKw (fp.length + 1) (keyNat (48 :: fp.map upperAscii)) = some 70 := by
  have hg : goUpper (fpKey fp) = 48 :: fp.map upperAscii := by
    unfold fpKey
    rw [goUpper_plain]
    · simp only [List.map_cons, List.map_map]
      congr 1
      exact List.map_congr_left fun c hc => (class_upper c (hcls c hc)).2.2
    · intro x hx
      rcases List.mem_cons.mp hx with rfl | hx
      · decide
      · obtain ⟨c, hc, rfl⟩ := List.mem_map.mp hx
        exact ⟨(class_upper c (hcls c hc)).1, (class_upper c (hcls c hc)).2.1⟩
  have := searchKeyword_lookup _ 70 (by decide) hb
  rw [hg] at this
  simpa using this

theorem blacklisted_alphabet (fp : Bytes) (hcls : ∀ c ∈ fp, c = 0 ∨ isClassU8 c = true)
    (hb : searchKeyword (fpKey fp) = 70) :
    1 ≤ fp.length ∧ fp.length ≤ 5 ∧ ∀ c ∈ fp, isClassU8 c = true := by
  obtain ⟨k1, k2, k3, _⟩ := blacklisted_key_shape _ _ (fp_lookup fp hcls hb)
  refine ⟨by omega, by omega, fun c hc => class_of_upper c (hcls c hc) ?_⟩
  have hk := lowBytes_keyNat isClassUpper fpBytes (fun _ => rfl) (fun _ _ => rfl) (fp.map upperAscii)
  rw [List.length_map, show fp.length = fp.length + 1 - 1 from rfl, k3] at hk
  exact List.all_eq_true.mp hk.symm _ (List.mem_map.mpr ⟨c, hc, rfl⟩)

/-- **a blacklisted two-class fingerprint ends in the comment or the union class** -/
theorem blacklisted_two (c0 c1 : UInt8) (h0 : c0 = 0 ∨ isClassU8 c0 = true) (h1 : c1 = 0 ∨ isClassU8 c1 = true)
    (hb : searchKeyword (fpKey [c0, c1]) = 70) : c1 = 99 ∨ c1 = 85 := by
  have hcls : ∀ c ∈ [c0, c1], c = 0 ∨ isClassU8 c = true := by
    intro c hc
    simp only [List.mem_cons, List.mem_nil_iff, or_false] at hc
    rcases hc with rfl | rfl <;> assumption
  have ht := kw_fact keywords_twoFpOK (fp_lookup _ hcls hb)
  have hkey : keyNat [48, upperAscii c0, upperAscii c1] % 256 = (upperAscii c1).toNat :=
    keyNat_mod [48, upperAscii c0] (upperAscii c1)
  simp only [twoFpOK, List.length_cons, List.length_nil, List.map_cons, List.map_nil, hkey, Nat.beq_refl, Bool.and_self,
    Bool.not_true, Bool.false_or, Bool.or_eq_true] at ht
  exact class_CU c1 h1 (ht.imp (fun h => UInt8.toNat_inj.mp (Nat.eq_of_beq_eq_true h)) fun h => UInt8.toNat_inj.mp (Nat.eq_of_beq_eq_true h))

/-- **a fingerprint made of empty slots, numbers, barewords, variables, `,`, `?` and `:` is never blacklisted** -/
theorem n1_not_blacklisted (fp : Bytes) (h : ∀ c ∈ fp, c = 0 ∨ c = 49 ∨ c = 110 ∨ c = 118 ∨ c = 44 ∨ c = 63 ∨ c = 58) :
    searchKeyword (fpKey fp) ≠ 70 := by
  intro hb
  have hcls : ∀ c ∈ fp, c = 0 ∨ isClassU8 c = true := by
    intro c hc
    rcases h c hc with e | e | e | e | e | e | e
    · exact Or.inl e
    all_goals (right; rw [e]; decide)
  obtain ⟨_, _, hall⟩ := blacklisted_alphabet fp hcls hb
  have hl := fp_lookup fp hcls hb
  have hbad := kw_fact benign_fingerprints_absent_table hl
  -- every byte of the key after `0` is one of the six
  have hk := lowBytes_keyNat (fun b => Nat.beq b 78 || Nat.beq b 49 || Nat.beq b 86 || Nat.beq b 44 || Nat.beq b 63 || Nat.beq b 58)
    n1Key (fun _ => rfl) (fun _ _ => rfl) (fp.map upperAscii)
  have hus : ((fp.map upperAscii).all fun u => Nat.beq u.toNat 78 || Nat.beq u.toNat 49 || Nat.beq u.toNat 86 ||
      Nat.beq u.toNat 44 || Nat.beq u.toNat 63 || Nat.beq u.toNat 58) = true := by
    rw [List.all_eq_true]
    intro u hu
    obtain ⟨c, hc, rfl⟩ := List.mem_map.mp hu
    rcases h c hc with e | e | e | e | e | e | e
    · have := hall c hc; rw [e] at this; exact absurd this (by decide)
    all_goals (rw [e]; rfl)
  rw [hus, List.length_map] at hk
  have h2 : Nat.ble 2 (fp.length + 1) = true := by simp only [Nat.ble_eq]; omega
  simp [badEntry, hk, h2] at hbad

end LibInj.Sqli
