import LibInj.Proofs.Decode
import LibInj.Proofs.Case
/-! C19: a scheme spelled through any mix of character encodings is recognised. -/
namespace LibInj.Xss
open LibInj

/-- the byte the matcher accumulates for a decoded value -/
def accByte (v : Int) : UInt8 := UInt8.ofNat (((if (decide (v ≥ 97) && decide (v ≤ 122)) = true then v - 32 else v).toNat) % 256)

/-- `u` is consumed by the decoder as one unit of value `v` when followed by `e` -/
def DecUnit (u e : Bytes) (v : Int) : Prop := u ≠ [] ∧ htmlDecodeByteAt (u ++ e) = .ok (v, u.length)

/-- `e` spells `sc`: units that decode to its bytes (up to the matcher's case folding), NUL / LF units
anywhere in between, anything after -/
inductive Enc : Bytes → Bytes → Prop
  | done (rest : Bytes) : Enc [] rest
  | skip {sc e : Bytes} (u : Bytes) (v : Int) : DecUnit u e v → (v = 0 ∨ v = 10) → Enc sc e → Enc sc (u ++ e)
  | char {sc e : Bytes} (c : UInt8) (u : Bytes) (v : Int) : DecUnit u e v → 32 < v → accByte v = c → Enc sc e →
      Enc (c :: sc) (u ++ e)

theorem DecUnit.length_pos {u e : Bytes} {v : Int} (hu : DecUnit u e v) : 1 ≤ u.length := by
  cases u with
  | nil => exact absurd rfl hu.1
  | cons _ _ => simp

theorem startsLoop_unit {u e : Bytes} {v : Int} (hu : DecUnit u e v) (first : Bool) (acc : Bytes) (fuel : Nat) :
    startsLoop (u ++ e) first acc (fuel + 1) =
      if (first && decide (v ≤ 32)) = true then startsLoop e first acc fuel
      else if (v == 0 || v == 10) = true then startsLoop e false acc fuel
      else startsLoop e false (acc ++ [accByte v]) fuel := by
  have hdec := hu.2
  have hb : (u ++ e).length > 0 := by have := hu.length_pos; simp; omega
  conv => lhs; unfold startsLoop
  simp only [hb, ↓reduceIte, hdec, bind, Except.bind, pure, Except.pure, show u.length ≤ (u ++ e).length by simp, List.drop_left]
  rfl

theorem starts_enc {sc e : Bytes} (h : Enc sc e) : ∀ (first : Bool) (acc : Bytes) (fuel : Nat), e.length < fuel →
    ∃ tail, startsLoop e first acc fuel = .ok (acc ++ sc ++ tail) := by
  induction h with
  | done rest =>
    intro first acc fuel hf
    obtain ⟨tail, ht⟩ := startsLoop_prefix fuel rest first acc hf
    exact ⟨tail, by rw [ht]; simp⟩
  | @skip sc e u v hu hv _ ih =>
    intro first acc fuel hf
    cases fuel with
    | zero => omega
    | succ fuel =>
      have hf' : e.length < fuel := by have := hu.length_pos; simp at hf; omega
      have c2 : (v == 0 || v == 10) = true := by rcases hv with rfl | rfl <;> decide
      rw [startsLoop_unit hu, if_pos c2]
      split
      · exact ih first acc fuel hf'
      · exact ih false acc fuel hf'
  | @char sc e c u v hu hv hc _ ih =>
    intro first acc fuel hf
    cases fuel with
    | zero => omega
    | succ fuel =>
      have hf' : e.length < fuel := by have := hu.length_pos; simp at hf; omega
      have c1 : ¬ (first && decide (v ≤ 32)) = true := by
        have : ¬ (v ≤ 32) := by omega
        simp [this]
      have c2 : ¬ (v == 0 || v == 10) = true := by
        have h0 : v ≠ 0 := by omega
        have h10 : v ≠ 10 := by omega
        simp [h0, h10]
      rw [startsLoop_unit hu, if_neg c1, if_neg c2, hc]
      obtain ⟨tail, ht⟩ := ih false (acc ++ [c]) fuel hf'
      exact ⟨tail, by rw [ht]; simp⟩

theorem isInfix_prefix : ∀ (n t : Bytes), isInfix n (n ++ t) = true
  | [], [] => by simp [isInfix]
  | [], x :: t => by simp [isInfix]
  | a :: n, t => by
    simp only [List.cons_append, isInfix, Bool.or_eq_true]
    left
    have : (a :: n) <+: (a :: (n ++ t)) := by
      rw [← List.cons_append]; exact List.prefix_append _ _
    exact List.isPrefixOf_iff_prefix.mpr this

theorem htmlEncodeStartsWith_enc (a e : Bytes) (h : Enc a e) : htmlEncodeStartsWith a e = .ok true := by
  unfold htmlEncodeStartsWith
  obtain ⟨tail, ht⟩ := starts_enc h true [] (e.length + 1) (by omega)
  simp only [ht, bind, Except.bind, pure, Except.pure, List.nil_append, isInfix_prefix]

theorem anyStarts_mem (str : Bytes) : ∀ (us : List Bytes) (u : Bytes), u ∈ us → htmlEncodeStartsWith u str = .ok true →
    anyStarts str us = .ok true
  | [], _, h, _ => by cases h
  | x :: us, u, h, hu => by
    unfold anyStarts
    obtain ⟨r, hr⟩ := htmlEncodeStartsWith_ok x str
    simp only [hr, bind, Except.bind, pure, Except.pure]
    cases r with
    | true => rfl
    | false =>
      simp only [Bool.false_eq_true, ↓reduceIte]
      rcases List.mem_cons.mp h with rfl | h'
      · rw [hu] at hr; cases hr
      · exact anyStarts_mem str us u h' hu

theorem decode_lit (c0 : UInt8) (t : Bytes) (h : c0 ≠ 38) : htmlDecodeByteAt (c0 :: t) = .ok (c0.toNat, 1) := by
  unfold htmlDecodeByteAt
  have e : (c0 != 38) = true := by simpa using h
  simp [at', e, bind, Except.bind, pure, Except.pure]

theorem urlJunk_38 : urlJunk 38 = false := by decide

theorem dropWhile_junk (junk e : Bytes) (hj : ∀ c ∈ junk, urlJunk c = true) :
    (junk ++ e).dropWhile urlJunk = e.dropWhile urlJunk := by
  induction junk with
  | nil => rfl
  | cons x xs ih =>
    simp only [List.cons_append, List.dropWhile_cons, hj x List.mem_cons_self, ↓reduceIte]
    exact ih (fun c hc => hj c (List.mem_cons_of_mem _ hc))

theorem DecUnit.amp_or_lit {u e : Bytes} {v : Int} (hu : DecUnit u e v) :
    (∃ u', u = 38 :: u') ∨ ∃ c0, u = [c0] ∧ c0 ≠ 38 ∧ v = c0.toNat := by
  obtain ⟨hne, hdec⟩ := hu
  match u, hne, hdec with
  | c0 :: u', _, hdec =>
    by_cases h38 : c0 = 38
    · exact Or.inl ⟨u', by rw [h38]⟩
    · rw [List.cons_append, decode_lit c0 _ h38] at hdec
      simp only [Except.ok.injEq, Prod.mk.injEq, List.length_cons] at hdec
      have hu' : u' = [] := List.eq_nil_of_length_eq_zero (by omega)
      exact Or.inr ⟨c0, by rw [hu'], h38, hdec.1.symm⟩

/-- leading literal bytes that the URL matcher strips are NUL / LF units: what remains still spells the scheme -/
theorem enc_dropWhile {sc e : Bytes} (h : Enc sc e) (hne : sc ≠ []) (h127 : ∀ c ∈ sc, c < 127) :
    Enc sc (e.dropWhile urlJunk) := by
  induction h with
  | done rest => exact absurd rfl hne
  | @skip sc e u v hu hv henc ih =>
    rcases hu.amp_or_lit with ⟨u', rfl⟩ | ⟨c0, rfl, _, rfl⟩
    · simp only [List.cons_append, List.dropWhile_cons, urlJunk_38, Bool.false_eq_true, ↓reduceIte]
      exact Enc.skip (38 :: u') v hu hv henc
    · have hj : urlJunk c0 = true := by
        have : c0 = 0 ∨ c0 = 10 := by
          rcases hv with h | h
          · left; exact UInt8.toNat_inj.mp (show c0.toNat = 0 by omega)
          · right; exact UInt8.toNat_inj.mp (show c0.toNat = 10 by omega)
        rcases this with rfl | rfl <;> decide
      simp only [List.cons_append, List.nil_append, List.dropWhile_cons, hj, ↓reduceIte]
      exact ih hne h127
  | @char sc e c u v hu hv hc henc ih =>
    rcases hu.amp_or_lit with ⟨u', rfl⟩ | ⟨c0, rfl, _, rfl⟩
    · simp only [List.cons_append, List.dropWhile_cons, urlJunk_38, Bool.false_eq_true, ↓reduceIte]
      exact Enc.char c (38 :: u') v hu hv hc henc
    · have hj : urlJunk c0 = false := by
        -- a literal byte >= 127 accumulates as itself, which is not a scheme byte
        have hlt : c0.toNat < 127 := by
          rcases Nat.lt_or_ge c0.toNat 127 with hl | hg
          · exact hl
          · exfalso
            have hacc : accByte (c0.toNat : Int) = c0 := by
              unfold accByte
              have : ¬ ((c0.toNat : Int) ≤ 122) := by omega
              simp only [this, decide_false, Bool.and_false, Bool.false_eq_true, ↓reduceIte, Int.toNat_natCast]
              rw [Nat.mod_eq_of_lt c0.toNat_lt]
              exact UInt8.ofNat_toNat
            have hc127 : c.toNat < 127 := h127 c List.mem_cons_self
            rw [← hc, hacc] at hc127
            omega
        unfold urlJunk
        have a1 : ¬ (c0 ≤ 32) := by
          intro hle; have : c0.toNat ≤ 32 := hle; omega
        have a2 : ¬ (c0 ≥ 127) := by
          intro hge; have : 127 ≤ c0.toNat := hge; omega
        simp [a1, a2]
      simp only [List.cons_append, List.nil_append, List.dropWhile_cons, hj, Bool.false_eq_true, ↓reduceIte]
      exact Enc.char c [c0] _ hu hv hc henc

theorem urls_facts : ∀ sc ∈ urls, sc ≠ [] ∧ ∀ c ∈ sc, c < 127 := by decide

/-- **C19 on the model**: a URL value made of stripped leading bytes followed by any encoding of one of
the scheme prefixes the matcher knows is judged dangerous, whatever follows -/
theorem scheme_enc_detected (junk e sc : Bytes) (hj : ∀ c ∈ junk, urlJunk c = true) (hsc : sc ∈ urls) (h : Enc sc e) :
    isBlackURL (junk ++ e) = .ok true := by
  unfold isBlackURL
  rw [dropWhile_junk junk e hj]
  obtain ⟨hne, h127⟩ := urls_facts sc hsc
  exact anyStarts_mem _ urls sc hsc (htmlEncodeStartsWith_enc sc _ (enc_dropWhile h hne h127))

theorem enc_prefix : ∀ {a b e : Bytes}, Enc (a ++ b) e → Enc a e := by
  intro a
  induction a with
  | nil => intro b e _; exact Enc.done e
  | cons x xs ih =>
    intro b e h
    generalize hsc : (x :: xs) ++ b = sc at h
    induction h with
    | done rest => cases hsc
    | skip u v hu hv _ ih2 => exact Enc.skip u v hu hv (ih2 hsc)
    | char c u v hu hv hc henc _ =>
      simp only [List.cons_append, List.cons.injEq] at hsc
      obtain ⟨rfl, rfl⟩ := hsc
      exact Enc.char _ u v hu hv hc (ih henc)

/-! ## the syntactic forms of a unit

A reference is `&#` (and `x` or `X`), a run of digits, and an end (`RefEnd`). The digit loops are walked once
(`decDecLoop_run`, `decHexLoop_run`), the end is one more step (`decDecLoop_end`, `decHexLoop_end`). -/

theorem unit_lit (c0 : UInt8) (e : Bytes) (h : c0 ≠ 38) : DecUnit [c0] e c0.toNat :=
  ⟨by simp, by simpa using decode_lit c0 e h⟩

/-- what may follow a reference that has no `;`: end of the value, or a byte that is neither `;` nor a digit of its base -/
def Stops (dig : UInt8 → Bool) (e : Bytes) : Prop := e = [] ∨ ∃ c t, e = c :: t ∧ dig c = false ∧ c ≠ 59

/-- how the digits of a reference end, and how many more bytes the decoder consumes there: a `;`, or nothing
before a byte that cannot continue the reference -/
inductive RefEnd (dig : UInt8 → Bool) : Bytes → Nat → Prop
  | semi (e : Bytes) : RefEnd dig (59 :: e) 1
  | stop (e : Bytes) : Stops dig e → RefEnd dig e 0

theorem at_of_drop {s : Bytes} {i : Nat} {c : UInt8} {t : Bytes} (hs : s.drop i = c :: t) : i < s.length ∧ at' s i = .ok c := by
  have hlt : i < s.length := by
    rcases Nat.lt_or_ge i s.length with h | h
    · exact h
    · rw [List.drop_of_length_le h] at hs; cases hs
  have := congrArg (fun l => l[0]?) hs
  simp only [List.getElem?_drop, Nat.add_zero, List.getElem?_cons_zero] at this
  exact ⟨hlt, by unfold at'; rw [this]⟩

theorem drop_succ_of_drop {s : Bytes} {i : Nat} {c : UInt8} {t : Bytes} (hs : s.drop i = c :: t) : s.drop (i + 1) = t := by
  rw [← List.drop_drop, hs]; rfl

/-- a digit loop reads a run of digits whose value stays in range, given what it does on one digit -/
theorem digits_run {loop : Nat → Nat → Nat → M (Int × Nat)} {dig : UInt8 → Bool} {step : Nat → UInt8 → Nat} (s : Bytes)
    (hmono : ∀ a d, a ≤ step a d)
    (hdigit : ∀ val i fuel d t, s.drop i = d :: t → dig d = true → step val d ≤ 0x1000FF →
      loop val i (fuel + 1) = loop (step val d) (i + 1) fuel) :
    ∀ (ds : Bytes) (val i fuel : Nat) (e : Bytes), ds.all dig = true → s.drop i = ds ++ e → ds.foldl step val ≤ 0x1000FF →
      loop val i (fuel + ds.length) = loop (ds.foldl step val) (i + ds.length) fuel
  | [], _, _, _, _, _, _, _ => rfl
  | d :: ds, val, i, fuel, e, hall, hs, hv => by
    have hge : ∀ (l : Bytes) (a : Nat), a ≤ l.foldl step a := fun l => by
      induction l with
      | nil => exact fun a => Nat.le_refl _
      | cons x xs ih => exact fun a => Nat.le_trans (hmono a x) (ih _)
    simp only [List.all_cons, Bool.and_eq_true] at hall
    rw [show fuel + (d :: ds).length = (fuel + ds.length) + 1 from rfl,
      hdigit val i _ d _ hs hall.1 (Nat.le_trans (hge ds _) hv),
      digits_run s hmono hdigit ds _ (i + 1) fuel e hall.2 (drop_succ_of_drop hs) hv,
      show i + 1 + ds.length = i + (d :: ds).length by simp; omega]
    rfl

def isDig (c : UInt8) : Bool := 48 ≤ c && c ≤ 57
def decStep (a : Nat) (d : UInt8) : Nat := a * 10 + (d.toNat - 48)
/-- value of a decimal digit string continuing from `a` (leading zeros are harmless) -/
def decFrom (a : Nat) (ds : Bytes) : Nat := ds.foldl decStep a

theorem dig_facts (d : UInt8) (h : isDig d = true) :
    (d == 59) = false ∧ (decide (d < 48) || decide (d > 57)) = false ∧ (d == 120 || d == 88) = false := by
  have := forall_byte (fun d => !isDig d || (d != 59 && (!(decide (d < 48) || decide (d > 57)) && !(d == 120 || d == 88))))
    (by decide +kernel) d
  simpa [h] using this

theorem nondig_range (c : UInt8) (h : isDig c = false) : (decide (c < 48) || decide (c > 57)) = true := by
  have := forall_byte (fun c => isDig c || (decide (c < 48) || decide (c > 57))) (by decide +kernel) c
  simpa [h] using this

theorem decDecLoop_digit (s : Bytes) (val i fuel : Nat) (d : UInt8) (t : Bytes) (hs : s.drop i = d :: t) (hd : isDig d = true)
    (hov : decStep val d ≤ 0x1000FF) : decDecLoop s val i (fuel + 1) = decDecLoop s (decStep val d) (i + 1) fuel := by
  obtain ⟨hlt, hat⟩ := at_of_drop hs
  obtain ⟨h59, hr, _⟩ := dig_facts d hd
  have hov' : ¬ (val * 10 + (d.toNat - 48) > 0x1000FF) := by unfold decStep at hov; omega
  conv => lhs; unfold decDecLoop
  simp only [hlt, ↓reduceIte, hat, h59, hr, hov', Bool.false_eq_true, bind, Except.bind]
  rfl

theorem decDecLoop_run (s : Bytes) : ∀ (ds : Bytes) (val i fuel : Nat) (e : Bytes), ds.all isDig = true → s.drop i = ds ++ e →
    decFrom val ds ≤ 0x1000FF → decDecLoop s val i (fuel + ds.length) = decDecLoop s (decFrom val ds) (i + ds.length) fuel :=
  digits_run (loop := decDecLoop s) s (fun a d => by unfold decStep; omega) (decDecLoop_digit s)

theorem decDecLoop_end (s : Bytes) (val i fuel k : Nat) (tail : Bytes) (hs : s.drop i = tail) (he : RefEnd isDig tail k) :
    decDecLoop s val i (fuel + 1) = .ok ((val : Int), i + k) := by
  unfold decDecLoop
  cases he with
  | semi e =>
    obtain ⟨hlt, hat⟩ := at_of_drop hs
    simp [hlt, hat, bind, Except.bind, pure, Except.pure]
  | stop _ hst =>
    rcases hst with rfl | ⟨c, t, rfl, hc, hc59⟩
    · have hge : ¬ i < s.length := by
        intro hlt
        have := congrArg List.length hs
        simp at this; omega
      simp [hge, pure, Except.pure]
    · obtain ⟨hlt, hat⟩ := at_of_drop hs
      have h59 : (c == 59) = false := by simpa using hc59
      simp [hlt, hat, h59, nondig_range c hc, bind, Except.bind, pure, Except.pure]

theorem decode_dec (ds tail : Bytes) (k : Nat) (hne : ds ≠ []) (hall : ds.all isDig = true) (hv : decFrom 0 ds ≤ 0x1000FF)
    (he : RefEnd isDig tail k) : htmlDecodeByteAt ([38, 35] ++ ds ++ tail) = .ok ((decFrom 0 ds : Nat), 2 + ds.length + k) := by
  match ds, hne, hall, hv with
  | d :: ds', _, hall, hv =>
    simp only [List.all_cons, Bool.and_eq_true] at hall
    obtain ⟨_, hr, hx⟩ := dig_facts d hall.1
    have e1 : decFrom 0 (d :: ds') = decFrom (d.toNat - 48) ds' := by
      show decFrom (decStep 0 d) ds' = _
      unfold decStep; simp
    unfold htmlDecodeByteAt
    simp only [List.cons_append, List.nil_append, List.length_cons, List.length_append, at', List.getElem?_cons_zero,
      List.getElem?_cons_succ, bind, Except.bind, pure, Except.pure, hx, hr, Bool.false_eq_true, ↓reduceIte,
      bne_self_eq_false, Bool.false_or]
    rw [if_neg (by simp), if_neg (by simp), if_neg (by simp),
      show ds'.length + tail.length + 1 + 1 + 1 + 1 = (tail.length + 3 + 1) + ds'.length by omega,
      decDecLoop_run _ ds' _ 3 _ tail hall.2 rfl (by rw [← e1]; exact hv), e1]
    refine (decDecLoop_end _ _ _ _ k tail ?_ he).trans (by congr 2; omega)
    exact List.drop_left' (l₁ := 38 :: 35 :: d :: ds') (by simp; omega)

theorem unit_dec (ds e : Bytes) (hne : ds ≠ []) (hall : ds.all isDig = true) (hv : decFrom 0 ds ≤ 0x1000FF) :
    DecUnit ([38, 35] ++ ds ++ [59]) e (decFrom 0 ds : Nat) := by
  refine ⟨by simp, ?_⟩
  rw [List.append_assoc _ [59] e]
  exact (decode_dec ds (59 :: e) 1 hne hall hv (.semi e)).trans (by congr 2; simp; omega)

theorem unit_dec_open (ds e : Bytes) (hne : ds ≠ []) (hall : ds.all isDig = true) (hv : decFrom 0 ds ≤ 0x1000FF)
    (hst : Stops isDig e) : DecUnit ([38, 35] ++ ds) e (decFrom 0 ds : Nat) := by
  refine ⟨by simp, ?_⟩
  exact (decode_dec ds e 0 hne hall hv (.stop e hst)).trans (by congr 2; simp; omega)

/-- value of a hexadecimal digit, `256` for any other byte -/
def hexValN (c : UInt8) : Nat :=
  if 48 ≤ c && c ≤ 57 then c.toNat - 48 else if 97 ≤ c && c ≤ 102 then c.toNat - 87
  else if 65 ≤ c && c ≤ 70 then c.toNat - 55 else 256
def isHex (c : UInt8) : Bool := (48 ≤ c && c ≤ 57) || (97 ≤ c && c ≤ 102) || (65 ≤ c && c ≤ 70)

/-- table fact: the regenerated hex map is the hexadecimal digit value (256 for non-digits) -/
theorem hexDec_eq (c : UInt8) : hexDec c = .ok (hexValN c) := by
  have := forall_byte (fun c => match hexDec c with | .ok v => v == hexValN c | _ => false) (by decide +kernel) c
  cases h : hexDec c with
  | error e => simp [h] at this
  | ok v => simp only [h, beq_iff_eq] at this; rw [this]

theorem hexVal_facts (c : UInt8) (h : isHex c = true) : hexValN c < 16 ∧ c ≠ 59 := by
  have := forall_byte (fun c => !isHex c || (decide (hexValN c < 16) && c != 59)) (by decide +kernel) c
  simp only [h, Bool.not_true, Bool.false_or, Bool.and_eq_true, decide_eq_true_eq, bne_iff_ne, ne_eq] at this
  exact this

theorem hexVal_non (c : UInt8) (h : isHex c = false) : hexValN c = 256 := by
  have := forall_byte (fun c => isHex c || hexValN c == 256) (by decide +kernel) c
  rw [h] at this
  simpa using this

def hexStep (a : Nat) (d : UInt8) : Nat := a * 16 + hexValN d
def hexFrom (a : Nat) (ds : Bytes) : Nat := ds.foldl hexStep a

theorem decHexLoop_digit (s : Bytes) (val i fuel : Nat) (d : UInt8) (t : Bytes) (hs : s.drop i = d :: t) (hd : isHex d = true)
    (hov : hexStep val d ≤ 0x1000FF) : decHexLoop s val i (fuel + 1) = decHexLoop s (hexStep val d) (i + 1) fuel := by
  obtain ⟨hlt, hat⟩ := at_of_drop hs
  obtain ⟨h16, hn59⟩ := hexVal_facts d hd
  have h59 : (d == 59) = false := by simpa using hn59
  have hn256 : (hexValN d == 256) = false := by
    have : hexValN d ≠ 256 := by omega
    simpa using this
  have hov' : ¬ (val * 16 + hexValN d > 0x1000FF) := by unfold hexStep at hov; omega
  conv => lhs; unfold decHexLoop
  simp only [hlt, ↓reduceIte, hat, h59, hexDec_eq, hn256, hov', Bool.false_eq_true, bind, Except.bind]
  rfl

theorem decHexLoop_run (s : Bytes) : ∀ (ds : Bytes) (val i fuel : Nat) (e : Bytes), ds.all isHex = true → s.drop i = ds ++ e →
    hexFrom val ds ≤ 0x1000FF → decHexLoop s val i (fuel + ds.length) = decHexLoop s (hexFrom val ds) (i + ds.length) fuel :=
  digits_run (loop := decHexLoop s) s (fun a d => by unfold hexStep; omega) (decHexLoop_digit s)

theorem decHexLoop_end (s : Bytes) (val i fuel k : Nat) (tail : Bytes) (hs : s.drop i = tail) (he : RefEnd isHex tail k) :
    decHexLoop s val i (fuel + 1) = .ok ((val : Int), i + k) := by
  unfold decHexLoop
  cases he with
  | semi e =>
    obtain ⟨hlt, hat⟩ := at_of_drop hs
    simp [hlt, hat, bind, Except.bind, pure, Except.pure]
  | stop _ hst =>
    rcases hst with rfl | ⟨c, t, rfl, hc, hc59⟩
    · have hge : ¬ i < s.length := by
        intro hlt
        have := congrArg List.length hs
        simp at this; omega
      simp [hge, pure, Except.pure]
    · obtain ⟨hlt, hat⟩ := at_of_drop hs
      have h59 : (c == 59) = false := by simpa using hc59
      simp [hlt, hat, h59, hexDec_eq, hexVal_non c hc, bind, Except.bind, pure, Except.pure]

theorem decode_hex (x : UInt8) (hx : x = 120 ∨ x = 88) (ds tail : Bytes) (k : Nat) (hne : ds ≠ []) (hall : ds.all isHex = true)
    (hv : hexFrom 0 ds ≤ 0x1000FF) (he : RefEnd isHex tail k) :
    htmlDecodeByteAt ([38, 35, x] ++ ds ++ tail) = .ok ((hexFrom 0 ds : Nat), 3 + ds.length + k) := by
  match ds, hne, hall, hv with
  | d :: ds', _, hall, hv =>
    simp only [List.all_cons, Bool.and_eq_true] at hall
    obtain ⟨h16, _⟩ := hexVal_facts d hall.1
    have hxx : (x == 120 || x == 88) = true := by rcases hx with rfl | rfl <;> decide
    have hn256 : (hexValN d == 256) = false := by
      have : hexValN d ≠ 256 := by omega
      simpa using this
    have e1 : hexFrom 0 (d :: ds') = hexFrom (hexValN d) ds' := by
      show hexFrom (hexStep 0 d) ds' = _
      unfold hexStep; simp
    unfold htmlDecodeByteAt
    simp only [List.cons_append, List.nil_append, List.length_cons, List.length_append, at', List.getElem?_cons_zero,
      List.getElem?_cons_succ, bind, Except.bind, pure, Except.pure, hxx, ↓reduceIte, hexDec_eq, hn256,
      bne_self_eq_false, Bool.false_or, Bool.false_eq_true]
    rw [if_neg (by simp), if_neg (by simp), if_neg (by simp), if_neg (by simp),
      show ds'.length + tail.length + 1 + 1 + 1 + 1 + 1 = (tail.length + 4 + 1) + ds'.length by omega,
      decHexLoop_run _ ds' _ 4 _ tail hall.2 rfl (by rw [← e1]; exact hv), e1]
    refine (decHexLoop_end _ _ _ _ k tail ?_ he).trans (by congr 2; omega)
    exact List.drop_left' (l₁ := 38 :: 35 :: x :: d :: ds') (by simp; omega)

theorem unit_hex (x : UInt8) (hx : x = 120 ∨ x = 88) (ds e : Bytes) (hne : ds ≠ []) (hall : ds.all isHex = true)
    (hv : hexFrom 0 ds ≤ 0x1000FF) : DecUnit ([38, 35, x] ++ ds ++ [59]) e (hexFrom 0 ds : Nat) := by
  refine ⟨by simp, ?_⟩
  rw [List.append_assoc _ [59] e]
  exact (decode_hex x hx ds (59 :: e) 1 hne hall hv (.semi e)).trans (by congr 2; simp; omega)

theorem unit_hex_open (x : UInt8) (hx : x = 120 ∨ x = 88) (ds e : Bytes) (hne : ds ≠ []) (hall : ds.all isHex = true)
    (hv : hexFrom 0 ds ≤ 0x1000FF) (hst : Stops isHex e) : DecUnit ([38, 35, x] ++ ds) e (hexFrom 0 ds : Nat) := by
  refine ⟨by simp, ?_⟩
  exact (decode_hex x hx ds e 0 hne hall hv (.stop e hst)).trans (by congr 2; simp; omega)

end LibInj.Xss
