import LibInj.Proofs.FoldLoop
/-! C14: on a window whose tokens are empty slots, numbers, variables, the marks `,` `?` `:` and barewords that `merge`
cannot join with a following word (`BenignTok`), no two-token rule of `fold` fires and the only three-token rule that can
is `x , y` → `x` (`foldTwo_benign`, `foldThree_benign`). -/
namespace LibInj.Sqli
open LibInj

/-- `v` is not the first word of any key of the table: `v ++ " " ++ y` is never found -/
def PhraseFree (v : Bytes) : Prop := ∀ y, searchKeyword (v ++ [32] ++ y) = 0

/-- an empty slot, a number, a bareword that `merge` cannot join with a following word (its value fills the 31-byte
clip, or it starts no phrase), a variable, or one of the marks `,` `?` `:` -/
def BenignTok (t : Token) : Prop :=
  t.cat = 0 ∨ t.cat = 49 ∨ (t.cat = 110 ∧ 1 ≤ t.len ∧ (t.len = 31 ∨ PhraseFree t.val)) ∨ t.cat = 118 ∨
  t.cat = 44 ∨ t.cat = 63 ∨ t.cat = 58

def BInv (f : FS) : Prop := (∀ t ∈ f.s.tv, BenignTok t) ∧ BenignTok f.lastComment

theorem BenignTok.of_cat {t : Token} (k : UInt8) (h : t.cat = k) (hk : k ∈ [0, 49, 118, 44, 63, 58] := by decide) :
    BenignTok t := by
  simp only [List.mem_cons, List.not_mem_nil, or_false] at hk
  rcases hk with rfl | rfl | rfl | rfl | rfl | rfl <;> simp [BenignTok, h]

theorem BenignTok.word {t : Token} (hc : t.cat = 110) (hl : 1 ≤ t.len) (h : t.len = 31 ∨ PhraseFree t.val) : BenignTok t :=
  Or.inr (Or.inr (Or.inl ⟨hc, hl, h⟩))

theorem BenignTok.cats {t : Token} (h : BenignTok t) :
    t.cat = 0 ∨ t.cat = 49 ∨ t.cat = 110 ∨ t.cat = 118 ∨ t.cat = 44 ∨ t.cat = 63 ∨ t.cat = 58 := by
  rcases h with h | h | ⟨h, _⟩ | h | h | h | h <;> simp [h]

theorem BenignTok.ne {t : Token} (h : BenignTok t) (k : UInt8) (hk : k ∉ [0, 49, 110, 118, 44, 63, 58] := by decide) :
    (t.cat == k) = false := by
  rw [beq_eq_false_iff_ne]
  intro e
  apply hk
  rw [← e]
  rcases h.cats with e' | e' | e' | e' | e' | e' | e' <;> simp [e']

theorem BenignTok.word_of_merge {t : Token} (h : BenignTok t) (hm : mergeB t.cat = true) :
    1 ≤ t.len ∧ (t.len = 31 ∨ PhraseFree t.val) := by
  rcases h with e | e | ⟨_, h⟩ | e | e | e | e
  case inr.inr.inl => exact h
  all_goals (rw [e] at hm; exact absurd hm (by decide))

theorem merge_benign (a b : Token) (ha : TokF a) (hb : TokF b) (ba : BenignTok a) (bb : BenignTok b) :
    merge a b = .ok none := by
  unfold merge
  simp only [bind, Except.bind, pure, Except.pure]
  by_cases cA : (!mergeA a.cat) = true
  · rw [if_pos cA]
  rw [if_neg cA]
  by_cases cB : (!mergeB b.cat) = true
  · rw [if_pos cB]
  rw [if_neg cB]
  -- both are barewords
  obtain ⟨_, haF⟩ := ba.word_of_merge (by simp only [Bool.not_eq_true', Bool.not_eq_false] at cA; simp [mergeB, cA])
  obtain ⟨hblen, _⟩ := bb.word_of_merge (by simpa using cB)
  by_cases cL : a.len + b.len + 1 > tokenSize
  · rw [if_pos cL]
  rw [if_neg cL]
  have hts : tokenSize = 32 := rfl
  rcases haF with h31 | hpf
  · rw [hts] at cL; omega
  · simp only [show slice a.val 0 a.len = .ok a.val from valOf_ok a ha, show slice b.val 0 b.len = .ok b.val from valOf_ok b hb,
      hpf b.val]
    simp

theorem isIfToken_benign (a b : Token) (ba : BenignTok a) : isIfToken a b = .ok false := by
  unfold isIfToken
  have : (a.cat == 59) = false := ba.ne 59
  simp only [this, Bool.false_and, Bool.false_eq_true, ↓reduceIte, pure, Except.pure]

theorem foldTwo_benign (f : FS) (hf : FInv f) (hbn : BInv f) (h2 : f.left + 2 ≤ f.pos) :
    foldTwo f = .ok (.next f) := by
  obtain ⟨hs, hlp, hp6, hlc⟩ := hf
  obtain ⟨a, ha, hta⟩ := tvGet_ok f.s hs f.left (by omega)
  obtain ⟨b, hb, htb⟩ := tvGet_ok f.s hs (f.left + 1) (by omega)
  have bna := hbn.1 a (List.mem_of_getElem? (tvGet_some ha))
  have bnb := hbn.1 b (List.mem_of_getElem? (tvGet_some hb))
  obtain ⟨bu, hbu⟩ := isUnaryOp_ok b htb
  obtain ⟨ba, hba⟩ := isArithmeticOp_ok b htb
  have hva := valOf_ok a hta
  have d1 := dec_ok f 1 (by omega)
  have d2 := dec_ok f 2 (by omega)
  unfold foldTwo
  simp only [ha, hb, hbu, bind, Except.bind]
  simp only [merge_benign a b hta htb bna bnb]
  simp only [hba]
  simp only [hva]
  simp only [isIfToken_benign a b bna]
  simp only [d1]
  simp only [d2]
  simp only [pure, Except.pure]
  -- the class of `a` is none of `s ; o & ( k t A \ ) {`, that of `b` neither `(` nor `}`: no condition holds
  simp only [bna.ne 115, bna.ne 59, bna.ne 111, bna.ne 38, bna.ne 40, bna.ne 107, bna.ne 116, bna.ne 65, bna.ne 92,
    bna.ne 41, bna.ne 123, bnb.ne 40, bnb.ne 125, Bool.or_self, Bool.false_and, Bool.and_false, Bool.false_eq_true,
    ↓reduceIte]

theorem isUnaryOp_benign (b : Token) (hb : BenignTok b) : b.isUnaryOp = .ok false := by
  unfold Token.isUnaryOp
  have : (b.cat != 111) = true := by
    have := hb.ne 111
    simp only [bne, this, Bool.not_false]
  simp only [this, ↓reduceIte, pure, Except.pure]

theorem foldThree_benign (f : FS) (hf : FInv f) (hbn : BInv f) (h3 : f.left + 3 ≤ f.pos) :
    foldThree f = .ok (.cont { f with left := f.left + 1 }) ∨
    foldThree f = .ok (.cont { f with pos := f.pos - 2, left := 0 }) := by
  obtain ⟨hs, hlp, hp6, hlc⟩ := hf
  obtain ⟨a, ha, hta⟩ := tvGet_ok f.s hs f.left (by omega)
  obtain ⟨b, hb, htb⟩ := tvGet_ok f.s hs (f.left + 1) (by omega)
  obtain ⟨c, hc, htc⟩ := tvGet_ok f.s hs (f.left + 2) (by omega)
  have bna := hbn.1 a (List.mem_of_getElem? (tvGet_some ha))
  have bnb := hbn.1 b (List.mem_of_getElem? (tvGet_some hb))
  have hbu := isUnaryOp_benign b bnb
  have hva := valOf_ok a hta
  have hvb := valOf_ok b htb
  have d2 := dec_ok f 2 (by omega)
  unfold foldThree
  simp only [ha, hb, hc, hbu, bind, Except.bind]
  simp only [hva]
  simp only [hvb]
  simp only [d2]
  simp only [pure, Except.pure]
  -- `b` is neither an operator nor a dot and `a` none of `o & E f`: apart from the comma rule no condition holds
  simp only [bnb.ne 111, bna.ne 111, bna.ne 38, Bool.and_false, Bool.false_and, Bool.false_eq_true, ↓reduceIte]
  by_cases h7 : ((a.cat == 110 || a.cat == 49 || a.cat == 115 || a.cat == 118) && b.cat == 44 &&
      (c.cat == 49 || c.cat == 110 || c.cat == 115 || c.cat == 118)) = true
  · right
    rw [if_pos h7]
  · left
    rw [if_neg h7]
    simp only [bnb.ne 46, bna.ne 69, bna.ne 102, Bool.and_false, Bool.false_and, Bool.false_eq_true, ↓reduceIte]

end LibInj.Sqli
