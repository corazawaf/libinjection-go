import LibInj.Proofs.Case
import LibInj.Xss.Classify
/-! The case of letters and NUL bytes inside names are invisible to the classifiers (C11, C04). -/
namespace LibInj.Xss
open LibInj

theorem isBlackTag_caseEq (s s' : Bytes) (h : CaseEq s s') : isBlackTag s = isBlackTag s' := by
  unfold isBlackTag
  rw [CaseEq.length h, goUpper_case_invariant _ _ (stripNul_caseEq s s' h)]

theorem isBlackAttr_caseEq (s s' : Bytes) (h : CaseEq s s') : isBlackAttr s = isBlackAttr s' := by
  unfold isBlackAttr
  rw [goUpper_case_invariant _ _ (stripNul_caseEq s s' h)]

theorem isBlackAttr_nul (a b : Bytes) : isBlackAttr (a ++ 0 :: b) = isBlackAttr (a ++ b) := by
  unfold isBlackAttr
  rw [stripNul_insert]

/-- table fact: every black tag (and `SVT`, `XSL`) has at least 3 bytes -/
theorem black_tags_min_length : Gen.blackTags.all (fun t => decide (3 ≤ t.length)) = true ∧ SVT.length = 3 ∧ XSL.length = 3 := by
  decide +kernel

theorem isBlackTag_nul (a b : Bytes) : isBlackTag (a ++ 0 :: b) = isBlackTag (a ++ b) := by
  unfold isBlackTag
  rw [stripNul_insert]
  by_cases h3 : (a ++ b).length < 3
  · -- the shorter name is rejected by the raw-length guard; the longer one cannot match a list entry
    simp only [h3, ↓reduceIte]
    by_cases h3' : (a ++ 0 :: b).length < 3
    · simp only [h3', ↓reduceIte]
    · simp only [h3', ↓reduceIte]
      have hu : (goUpper (stripNul (a ++ b))).length < 3 := by
        have h1 := goUpper_length_le _ (stripNul (a ++ b)) (Nat.le_refl _)
        have h2 : (stripNul (a ++ b)).length ≤ (a ++ b).length := by unfold stripNul; exact List.length_filter_le _ _
        omega
      obtain ⟨t1, t2, t3⟩ := black_tags_min_length
      have hne : ∀ t : Bytes, 3 ≤ t.length → goUpper (stripNul (a ++ b)) ≠ t := fun t ht he => by rw [he] at hu; omega
      have hc : Gen.blackTags.contains (goUpper (stripNul (a ++ b))) = false := by
        cases hcc : Gen.blackTags.contains (goUpper (stripNul (a ++ b))) with
        | false => rfl
        | true =>
          have hm : goUpper (stripNul (a ++ b)) ∈ Gen.blackTags := by simpa using hcc
          exact absurd rfl (hne _ (by simpa using List.all_eq_true.mp t1 _ hm))
      rw [hc, beq_eq_false_iff_ne.mpr (hne SVT (Nat.le_of_eq t2.symm)), beq_eq_false_iff_ne.mpr (hne XSL (Nat.le_of_eq t3.symm))]
      rfl
  · have h3' : ¬ (a ++ 0 :: b).length < 3 := by simp at h3 ⊢; omega
    simp only [h3, h3', ↓reduceIte]

end LibInj.Xss
