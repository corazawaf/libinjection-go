import LibInj.Proofs.BenignLex
import LibInj.Proofs.FpTable
import LibInj.Proofs.Case
/-! C14: a word with a trailing dot (`w.`) is no key of the keyword table and starts none of its phrases — from two facts
about the regenerated table (no key ends in `.`, no key contains `. `), so that the sentence theorems need hypotheses
about the words only. -/
namespace LibInj.Sqli
open LibInj LibInj.Spec LibInj.Tables

theorem goUpper_word_append (w : Bytes) (hw : w.all isWordByteB = true) (t : Bytes) :
    goUpper (w ++ t) = w.map upperAscii ++ goUpper t := by
  induction w with
  | nil => rfl
  | cons c w ih =>
    have hc : isWordByteB c = true := by simp only [List.all_cons, Bool.and_eq_true] at hw; exact hw.1
    have hw' : w.all isWordByteB = true := by simp only [List.all_cons, Bool.and_eq_true] at hw; exact hw.2
    have hne : c ≠ 0xC4 ∧ c ≠ 0xC5 := by
      constructor <;> (intro e; rw [e] at hc; revert hc; decide)
    simp only [List.cons_append, List.map_cons]
    rw [← ih hw']
    exact goUpper_cons_generic c (w ++ t) (fun h => hne.1 h.1) (fun h => hne.2 h.1)

theorem keyNat_append_snoc (a : Bytes) (c : UInt8) : keyNat (a ++ [c]) = keyNat a * 256 + c.toNat := keyNat_snoc a c

theorem hasDotBlank_mono : ∀ (k n : Nat), hasDotBlank k n = true → hasDotBlank (k + 1) n = true
  | 0, _, h => by cases h
  | k + 1, n, h => by
    unfold hasDotBlank at h ⊢
    simp only [Bool.or_eq_true] at h ⊢
    rcases h with h | h
    · exact Or.inl h
    · exact Or.inr (hasDotBlank_mono k _ h)

theorem hasDotBlank_keyNat (a : Bytes) : ∀ (r : Bytes), hasDotBlank (a ++ 46 :: 32 :: r.reverse).length (keyNat (a ++ 46 :: 32 :: r.reverse)) = true
  | [] => by
    rw [List.reverse_nil, show a ++ [46, 32] = (a ++ [46]) ++ [32] by simp, keyNat_snoc, keyNat_snoc, List.length_append]
    have e : ((keyNat a * 256 + (46 : UInt8).toNat) * 256 + (32 : UInt8).toNat) % 65536 = 46 * 256 + 32 := by
      rw [show (46 : UInt8).toNat = 46 from rfl, show (32 : UInt8).toNat = 32 from rfl]; omega
    rw [List.length_singleton, hasDotBlank, e]
    rfl
  | c :: r => by
    have ih := hasDotBlank_keyNat a r
    rw [show a ++ 46 :: 32 :: (c :: r).reverse = (a ++ 46 :: 32 :: r.reverse) ++ [c] by simp, List.length_append,
      List.length_singleton, hasDotBlank, keyNat_div, ih, Bool.or_true]

theorem found_dot_facts (x : Bytes) (h : searchKeyword x ≠ 0) :
    Nat.beq (keyNat (goUpper x) % 256) 46 = false ∧ hasDotBlank (goUpper x).length (keyNat (goUpper x)) = false := by
  rcases searchKeyword_found x with h0 | ⟨v, hl, _⟩
  · exact absurd h0 h
  · simpa using kw_fact keys_dot_facts hl

theorem word_dot_free (w : Bytes) (hw : w.all isWordByteB = true) :
    searchKeyword (w ++ [46]) = 0 ∧ PhraseFree (w ++ [46]) := by
  constructor
  · apply Decidable.byContradiction
    intro h
    have hf := (found_dot_facts _ h).1
    rw [goUpper_word_append w hw, show goUpper [46] = [46] from rfl, keyNat_mod] at hf
    exact absurd hf (by decide)
  · intro y
    apply Decidable.byContradiction
    intro h
    have hf := (found_dot_facts _ h).2
    have hu : goUpper (w ++ [46] ++ [32] ++ y) = w.map upperAscii ++ 46 :: 32 :: (goUpper y).reverse.reverse := by
      rw [List.append_assoc, List.append_assoc, goUpper_word_append w hw, List.reverse_reverse]; rfl
    rw [hu, hasDotBlank_keyNat] at hf
    exact absurd hf (by decide)

end LibInj.Sqli
