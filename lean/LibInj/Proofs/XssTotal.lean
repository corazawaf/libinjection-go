import LibInj.Proofs.H5Good
import LibInj.Proofs.Decode
import LibInj.Xss.IsXSS
/-! Totality of the XSS loop and of `IsXSS` (C02). -/
namespace LibInj.Xss
open LibInj LibInj.H5

theorem commentIsXSS_ok (h : H) (hb : h.tokStart + h.tokLen ≤ h.s.length) : ∃ r, commentIsXSS h = .ok r := by
  unfold commentIsXSS
  have hl : (h.s.drop h.tokStart).length = h.s.length - h.tokStart := by simp
  simp only [slice_ok h.s h.tokStart (h.tokStart + h.tokLen) (by omega) hb,
    H5.offFrom_ok (show h.tokStart ≤ h.s.length by omega), bind, Except.bind, pure, Except.pure]
  -- every test returns `true` or passes on to the next
  have hit {c : Prop} [Decidable c] {x : M Bool} (hx : ∃ r, x = .ok r) : ∃ r, (if c then .ok true else x) = .ok r :=
    if_cases (P := fun y : M Bool => ∃ r, y = Except.ok r) (fun _ => ⟨true, rfl⟩) fun _ => hx
  refine hit ?_
  by_cases h3 : h.tokLen > 3
  · have hts : 3 < (h.s.drop h.tokStart).length := by rw [hl]; omega
    have e0 := at'_ok (show 0 < (h.s.drop h.tokStart).length by omega)
    have e1 := slice_ok (h.s.drop h.tokStart) 1 3 (by omega) (by omega)
    have e2 := slice_ok (h.s.drop h.tokStart) 0 3 (by omega) (by omega)
    simp only [h3, ↓reduceIte, e0, e1, e2]
    refine hit (hit ?_)
    by_cases h5 : h.tokLen > 5
    · have e3 := slice_ok (h.s.drop h.tokStart) 0 6 (by omega) (by rw [hl]; omega)
      simp only [h5, ↓reduceIte, e3]
      exact hit ⟨false, rfl⟩
    · simp only [h5, ↓reduceIte]
      exact ⟨false, rfl⟩
  · have h5 : ¬ h.tokLen > 5 := by omega
    simp only [h3, h5, ↓reduceIte]
    exact ⟨false, rfl⟩

/-- one round of the XSS loop: it stops without a verdict when the tokenizer does, reports a hit only on a token of one of
four types (on an attribute value only with a pending attribute), or goes on from the tokenizer's next state -/
theorem xssLoop_cases {P : M Bool → Prop} (h : H) (attr fuel : Nat) (hi : Inv h) (hstop : P (.ok false))
    (hfound : ∀ h', next h = .ok (true, h') →
      h'.tokType = .docType ∨ h'.tokType = .tagNameOpen ∨ h'.tokType = .tagComment ∨ (h'.tokType = .attrValue ∧ attr ≠ 0) →
      P (.ok true))
    (hnext : ∀ h' a, next h = .ok (true, h') → h'.s = h.s → mu h' < mu h → Inv h' → P (xssLoop h' a fuel)) :
    P (xssLoop h attr (fuel + 1)) := by
  unfold xssLoop
  obtain ⟨b, h', hr, hs, hb⟩ := next_spec h hi
  simp only [hr, bind, Except.bind, pure, Except.pure]
  cases b with
  | false => exact hstop
  | true =>
    obtain ⟨hmu, hinv, htok, _⟩ := hb rfl
    have hrec : ∀ a, P (xssLoop h' a fuel) := fun a => hnext h' a hr hs hmu hinv
    have htok' : h'.tokStart + h'.tokLen ≤ h'.s.length := by rw [hs]; exact htok
    have esl := slice_ok h'.s h'.tokStart (h'.tokStart + h'.tokLen) (by omega) htok'
    simp only [Bool.not_true, Bool.false_eq_true, ↓reduceIte]
    cases htt : h'.tokType <;> simp only [esl]
    case docType => exact hfound h' hr (.inl htt)
    case tagNameOpen => exact if_cases (fun _ => hfound h' hr (.inr (.inl htt))) fun _ => hrec _
    case attrValue =>
      have hf : attr ≠ 0 → P (.ok true) := fun ha => hfound h' hr (.inr (.inr (.inr ⟨htt, ha⟩)))
      simp only [bne_self_eq_false, Bool.false_eq_true, ↓reduceIte]
      split
      · exact hf (by omega)
      · obtain ⟨r, hr2⟩ := isBlackURL_ok ((h'.s.drop h'.tokStart).take (h'.tokStart + h'.tokLen - h'.tokStart))
        simp only [hr2]
        exact if_cases (fun _ => hf (by omega)) fun _ => hrec _
      · exact hf (by omega)
      · exact if_cases (fun _ => hf (by omega)) fun _ => hrec _
      · exact hrec _
    case tagComment =>
      obtain ⟨r, hr2⟩ := commentIsXSS_ok h' htok'
      simp only [hr2]
      exact if_cases (fun _ => hfound h' hr (.inr (.inr (.inl htt)))) fun _ => hrec _
    all_goals exact hrec _

theorem xssLoop_total (fuel : Nat) : ∀ (h : H) (attr : Nat), Inv h → mu h < fuel → ∃ b, xssLoop h attr fuel = .ok b := by
  induction fuel with
  | zero => intro h _ _ hf; omega
  | succ fuel ih =>
    exact fun h attr hi hf => xssLoop_cases (P := fun r => ∃ b, r = .ok b) h attr fuel hi ⟨false, rfl⟩
      (fun _ _ _ => ⟨true, rfl⟩) fun h' a _ _ hmu hinv => ih h' a hinv (by omega)

theorem isXSSCtx_total (s : Bytes) (ctx : Nat) : ∃ b, isXSSCtx s ctx = .ok b :=
  xssLoop_total _ _ _ (init_inv s ctx) (Nat.lt_succ_of_le (mu_init_le s ctx))

/-- **C02.** `IsXSS` returns a verdict for every byte string. -/
theorem isXSS_total (s : Bytes) : ∃ b, isXSS s = .ok b := by
  unfold isXSS
  obtain ⟨b0, h0⟩ := isXSSCtx_total s 0
  obtain ⟨b1, h1⟩ := isXSSCtx_total s 1
  obtain ⟨b2, h2⟩ := isXSSCtx_total s 2
  obtain ⟨b3, h3⟩ := isXSSCtx_total s 3
  obtain ⟨b4, h4⟩ := isXSSCtx_total s 4
  simp only [h0, h1, h2, h3, h4, bind, Except.bind, pure, Except.pure]
  cases b0 <;> cases b1 <;> cases b2 <;> cases b3 <;> simp

end LibInj.Xss
