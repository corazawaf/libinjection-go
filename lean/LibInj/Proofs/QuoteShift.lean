import LibInj.Proofs.TokenizeOK
/-! C12, vocabulary of the quote shift: how a token of the as-is reading of `quote ++ x` relates to the
token of the in-quote reading of `x` (offsets shifted by one; only the first token's opening-quote mark
differs), and the string token both readings start with. -/
namespace LibInj.Sqli
open LibInj LibInj.Spec

/-- token of the as-is reading (`t1`) against token of the in-quote reading (`t2`) -/
def TokRel (t1 t2 : Token) : Prop :=
  t1.cat = t2.cat ∧ t1.len = t2.len ∧ t1.val = t2.val ∧ t1.count = t2.count ∧ t1.strClose = t2.strClose ∧
  t1.pos = t2.pos + 1 ∧ (t2.pos ≠ 0 → t1.strOpen = t2.strOpen)

def ModeEq (f1 f2 : Nat) : Prop :=
  hasFlag f1 flagMysql = hasFlag f2 flagMysql ∧ hasFlag f1 flagAnsi = hasFlag f2 flagAnsi

theorem runP_mode (f1 f2 : Nat) (h : ModeEq f1 f2) (rest : Bytes) (p : P) : runP f1 rest p = runP f2 rest p := by
  cases p <;> simp only [runP]
  · unfold parseHash; rw [h.1]
  · unfold parseDash; rw [h.2]

/-- the string token over content `x` closed (or not) by `q`, and how many bytes of `x` it consumes -/
def strTok (x : Bytes) (q : UInt8) (off : Nat) (op : UInt8) : Token × Nat :=
  match closingQuote x q with
  | none => ({ cat := 115, pos := off, len := clip x.length, val := x.take (clip x.length), strOpen := op, strClose := 0 }, x.length)
  | some k => ({ cat := 115, pos := off, len := clip k, val := x.take (clip k), strOpen := op, strClose := q }, k + 1)

theorem parseStringCore_strTok (rest : Bytes) (offset : Nat) (d : UInt8) (hd : d ≠ 92) (ho : offset ≤ rest.length) :
    parseStringCore {} rest offset d =
      .ok { tok := (strTok (rest.drop offset) d offset (if offset > 0 then d else 0)).1,
            next := offset + (strTok (rest.drop offset) d offset (if offset > 0 then d else 0)).2 } := by
  rw [parseStringCore_spec {} rest offset d hd ho]
  unfold strTok
  have e : offset + (rest.length - offset) = rest.length := by omega
  cases hq : closingQuote (rest.drop offset) d with
  | none => simp only [List.length_drop, e, hq]
  | some k => simp only [Nat.add_assoc, hq]

theorem strTok_cat (x : Bytes) (q : UInt8) (off : Nat) (op : UInt8) : (strTok x q off op).1.cat = 115 := by
  unfold strTok; split <;> rfl
theorem strTok_pos (x : Bytes) (q : UInt8) (off : Nat) (op : UInt8) : (strTok x q off op).1.pos = off := by
  unfold strTok; split <;> rfl
theorem strTok_rel (x : Bytes) (q : UInt8) (op1 op2 : UInt8) : TokRel (strTok x q 1 op1).1 (strTok x q 0 op2).1 := by
  unfold strTok; split <;> exact ⟨rfl, rfl, rfl, rfl, rfl, rfl, fun h => absurd rfl h⟩
theorem strTok_next (x : Bytes) (q : UInt8) (o1 o2 : Nat) (op1 op2 : UInt8) : (strTok x q o1 op1).2 = (strTok x q o2 op2).2 := by
  unfold strTok; split <;> rfl
theorem strTok_bounds (x : Bytes) (hx : x ≠ []) (q : UInt8) (off : Nat) (op : UInt8) :
    1 ≤ (strTok x q off op).2 ∧ (strTok x q off op).2 ≤ x.length := by
  have hxl : 1 ≤ x.length := by cases x with | nil => exact absurd rfl hx | cons _ _ => simp
  unfold strTok
  cases hq : closingQuote x q with
  | none => exact ⟨hxl, Nat.le_refl _⟩
  | some k => have := closingQuote_lt x q k hq; simp only []; omega

/-- pointwise relation of two lists -/
inductive AllRel {α β : Type} (R : α → β → Prop) : List α → List β → Prop
  | nil : AllRel R [] []
  | cons {a b l1 l2} : R a b → AllRel R l1 l2 → AllRel R (a :: l1) (b :: l2)

theorem AllRel.length_eq {α β : Type} {R : α → β → Prop} {l1 : List α} {l2 : List β} (h : AllRel R l1 l2) : l1.length = l2.length := by
  induction h with
  | nil => rfl
  | cons _ _ ih => simp [ih]

/-- raw tokens of the two readings: same token up to the offset shift, end of scan shifted by one -/
def RawRel (r1 r2 : RawTok) : Prop := TokRel r1.tok r2.tok ∧ r1.after = r2.after + 1

end LibInj.Sqli
