import LibInj.Proofs.FpTable
import LibInj.Proofs.FingerprintOK
/-! The blacklist / whitelist stage never errs: the raw reads of `notWhitelist` are in range, so one parsing context
returns (`pass_ok`, C01). -/
namespace LibInj.Sqli
open LibInj LibInj.Tables

theorem guarded_read_ok (c : Bool) (s : Bytes) (i : Nat) (y : UInt8) (h : c = true → i < s.length) :
    ∃ b, (g c <&&> byteIs s i y) = .ok b := by
  cases c with
  | false => exact ⟨false, rfl⟩
  | true => exact ⟨s[i]'(h rfl) == y, by simp [g, andM, toBool, byteIs, at'_ok (h rfl), bind, Except.bind, pure, Except.pure]⟩

theorem wlNumComment_ok (s : State) (t0 : Token) (hw : s.toks ≤ 2 → Wit s.input t0.len) :
    ∃ b, wlNumComment s t0 = .ok b := by
  unfold wlNumComment
  by_cases ht : s.toks > 2
  · simp only [ht, ↓reduceIte, pure, Except.pure]; exact ⟨_, rfl⟩
  · obtain ⟨p, p1, p2, p3⟩ := hw (by omega)
    have hlt : t0.len < s.input.length := by omega
    -- when the byte is `/` or `-` the next one exists
    have hnext : (s.input[t0.len] = 47 ∨ s.input[t0.len] = 45) → t0.len + 1 < s.input.length := by
      intro hch
      rcases Nat.lt_or_ge t0.len p with h | h
      · omega
      · have hp : p = t0.len := by omega
        subst hp
        have := p3 (by rw [List.getElem?_eq_getElem hlt]; rcases hch with h | h <;> simp [h])
        omega
    obtain ⟨b1, e1⟩ := guarded_read_ok (s.input[t0.len] == 47) s.input (t0.len + 1) 42
      fun h => hnext (Or.inl (by simpa using h))
    obtain ⟨b2, e2⟩ := guarded_read_ok (s.input[t0.len] == 45) s.input (t0.len + 1) 45
      fun h => hnext (Or.inr (by simpa using h))
    simp only [ht, ↓reduceIte, at'_ok hlt, e1, e2, bind, Except.bind, pure, Except.pure]
    split
    · exact ⟨_, rfl⟩
    split
    · exact ⟨_, rfl⟩
    split <;> exact ⟨_, rfl⟩

theorem wlTwo_ok (s : State) (hs : SInv s) (hx : XFin s) (t0 t1 : Token)
    (h0 : s.tv[0]? = some t0) (h1 : s.tv[1]? = some t1)
    (hb : searchKeyword (fpKey [t0.cat, t1.cat]) = 70) :
    ∃ b, wlTwo s [t0.cat, t1.cat] = .ok b := by
  have hm0 : t0 ∈ s.tv := List.mem_of_getElem? h0
  have hm1 : t1 ∈ s.tv := List.mem_of_getElem? h1
  have hf0 := hs.2.2 t0 hm0
  have hf1 := hs.2.2 t1 hm1
  unfold wlTwo
  simp only [tvGet_of_some h0, tvGet_of_some h1, bind, Except.bind, pure, Except.pure]
  split
  · exact ⟨_, rfl⟩
  rename_i cU
  -- not `U`: the table says the second class is the comment, so `tv[1]` is not empty
  have h99 : t1.cat = 99 :=
    (blacklisted_two t0.cat t1.cat hf0.2.1 hf1.2.1 hb).resolve_right fun h => cU (by simp [h])
  have hl1 : 0 < t1.val.length := by
    have := hf1.2.2.2 h99
    rw [hf1.1.1]; omega
  simp only [at'_ok hl1]
  split
  · exact ⟨_, rfl⟩
  split
  · exact ⟨_, rfl⟩
  split
  · exact ⟨_, rfl⟩
  split
  · rename_i c4
    simp only [Bool.and_eq_true, beq_iff_eq] at c4
    apply wlNumComment_ok
    intro htk
    obtain ⟨p, p1, p2, p3⟩ := hx htk t0 hm0 (Or.inl c4.1) ⟨t1, hm1, h99⟩
    exact ⟨p, by omega, p2, p3⟩
  · split <;> exact ⟨_, rfl⟩

theorem wlInto_ok (t1 : Token) (h : TokInv t1) : ∃ b, wlInto t1 = .ok b := by
  unfold wlInto
  simp only [bind, Except.bind, pure, Except.pure]
  split
  · split
    · exact ⟨_, rfl⟩
    · simp only [slice_ok t1.val 0 4 (by omega) (by rw [h.1]; omega)]
      split <;> exact ⟨_, rfl⟩
  · exact ⟨_, rfl⟩

theorem wlThree_ok (s : State) (hs : SInvW s) (fp : Bytes) : ∃ b, wlThree s fp = .ok b := by
  obtain ⟨t0, g0, _, _⟩ := tvGetW s hs 0 (by omega)
  obtain ⟨t1, g1, hi1, _⟩ := tvGetW s hs 1 (by omega)
  obtain ⟨t2, g2, _, _⟩ := tvGetW s hs 2 (by omega)
  unfold wlThree
  simp only [g0, g1, g2, bind, Except.bind, pure, Except.pure]
  split
  · split <;> exact ⟨_, rfl⟩
  split
  · split
    · exact ⟨_, rfl⟩
    · exact wlInto_ok t1 hi1
  · exact wlInto_ok t1 hi1

theorem take_two_cats (tv : List Token) (h : tv.length = 8) :
    ∃ t0 t1, tv[0]? = some t0 ∧ tv[1]? = some t1 ∧ (tv.take 2).map (·.cat) = [t0.cat, t1.cat] := by
  match tv, h with
  | t0 :: t1 :: _, _ => exact ⟨t0, t1, rfl, rfl, rfl⟩

theorem notWhitelist_ok (input : Bytes) (st : State) (h : FpInv input st) (hb : blacklist st = true) :
    ∃ b, notWhitelist st = .ok b := by
  obtain ⟨_, hfp⟩ := h
  unfold notWhitelist
  simp only [pure, Except.pure]
  -- the `sp_password` shortcut either returns or falls through
  have key : (∃ b, (if st.fingerprint.length == 2 then wlTwo st st.fingerprint
      else if st.fingerprint.length == 3 then wlThree st st.fingerprint else (Except.ok true : M Bool)) = .ok b) := by
    rcases hfp with hX | ⟨hw, n, hn, hfpn, h2⟩
    · rw [hX]; exact ⟨_, rfl⟩
    · by_cases c2 : (st.fingerprint.length == 2) = true
      · rw [if_pos c2]
        have hlen : st.fingerprint.length = 2 := by simpa using c2
        have hn2 : n = 2 := by
          rw [hfpn, List.length_map, List.length_take, hw.1] at hlen
          omega
        subst hn2
        obtain ⟨hs, hx⟩ := h2 (Nat.le_refl _)
        obtain ⟨t0, t1, g0, g1, hcats⟩ := take_two_cats st.tv hw.1
        have hfp2 : st.fingerprint = [t0.cat, t1.cat] := by rw [hfpn, hcats]
        rw [hfp2]
        apply wlTwo_ok st hs (hx (by decide)) t0 t1 g0 g1
        unfold blacklist at hb
        rw [hfp2] at hb
        simpa using hb
      · rw [if_neg c2]
        by_cases c3 : (st.fingerprint.length == 3) = true
        · rw [if_pos c3]; exact wlThree_ok st hw _
        · rw [if_neg c3]; exact ⟨_, rfl⟩
  by_cases c1 : (decide (st.fingerprint.length > 1) && st.fingerprint[st.fingerprint.length - 1]? == some 99) = true
  · rw [if_pos c1]
    by_cases c1b : contains st.input spPassword = true
    · rw [if_pos c1b]; exact ⟨_, rfl⟩
    · rw [if_neg c1b]; exact key
  · rw [if_neg c1]; exact key

theorem checkFingerprint_ok (input : Bytes) (st : State) (h : FpInv input st) : ∃ b, checkFingerprint st = .ok b := by
  unfold checkFingerprint
  by_cases hb : blacklist st = true
  · simp only [hb, ↓reduceIte]; exact notWhitelist_ok input st h hb
  · simp only [hb, Bool.false_eq_true, ↓reduceIte, pure, Except.pure]; exact ⟨_, rfl⟩

theorem pass_ok (input : Bytes) (flags : Nat) : ∃ r, pass input flags = .ok r := by
  unfold pass
  obtain ⟨st, h1, hinv⟩ := fingerprint_ok input flags
  obtain ⟨b, h2⟩ := checkFingerprint_ok input st hinv
  simp only [h1, h2, bind, Except.bind, pure, Except.pure]
  exact ⟨_, rfl⟩

end LibInj.Sqli
