import LibInj.Xss.IsXSS
import LibInj.Proofs.H5Good
import LibInj.Proofs.H5Case
import LibInj.Proofs.SchemeEnc
import LibInj.Proofs.NulClass
/-! C11: the classifiers, the character-reference decoder, the URL matcher and the `isXSS` loop are
blind to ASCII letter case. -/
namespace LibInj.Xss
open LibInj LibInj.H5

theorem goUpper_L (t : Bytes) : goUpper (L t) = goUpper t := goUpper_case_invariant _ _ (caseEq_L t)
theorem stripNul_L (t : Bytes) : goUpper (stripNul (L t)) = goUpper (stripNul t) :=
  goUpper_case_invariant _ _ (stripNul_caseEq _ _ (caseEq_L t))

theorem isBlackTag_L (t : Bytes) : isBlackTag (L t) = isBlackTag t := isBlackTag_caseEq _ _ (caseEq_L t)
theorem isBlackAttr_L (t : Bytes) : isBlackAttr (L t) = isBlackAttr t := isBlackAttr_caseEq _ _ (caseEq_L t)

theorem hexDec_lower (c : UInt8) : hexDec (lowerAscii c) = hexDec c := by
  rw [hexDec_eq, hexDec_eq, caseBlind hexValN (by decide +kernel) c]

theorem decHexLoop_L (s : Bytes) : ∀ (fuel val i : Nat), decHexLoop (L s) val i fuel = decHexLoop s val i fuel
  | 0, _, _ => rfl
  | fuel + 1, val, i => by
    unfold decHexLoop
    simp only [L_length, at'_L, map_bind, nl 59 (by decide), hexDec_lower, decHexLoop_L s fuel]

theorem digit_lower (c : UInt8) : (lowerAscii c < 48 || lowerAscii c > 57) = (c < 48 || c > 57) ∧
    ((c < 48 || c > 57) = false → lowerAscii c = c) := by
  refine ⟨caseBlind (fun c => decide (c < 48) || decide (c > 57)) (by decide +kernel) c, fun h => ?_⟩
  -- a digit is not a letter
  refine lower_fixed_of_nonletter c ?_
  simp only [isLowerAscii, isUpperAscii, Bool.or_eq_false_iff, Bool.and_eq_false_iff, decide_eq_false_iff_not,
    UInt8.lt_iff_toNat_lt, UInt8.le_iff_toNat_le, gt_iff_lt, UInt8.reduceToNat] at h ⊢
  omega

theorem x_lower (c : UInt8) : (lowerAscii c == 120 || lowerAscii c == 88) = (c == 120 || c == 88) :=
  caseBlind (fun c => c == 120 || c == 88) (by decide +kernel) c

theorem decDecLoop_L (s : Bytes) : ∀ (fuel val i : Nat), decDecLoop (L s) val i fuel = decDecLoop s val i fuel
  | 0, _, _ => rfl
  | fuel + 1, val, i => by
    unfold decDecLoop
    simp only [L_length, at'_L, map_bind, nl 59 (by decide), (digit_lower _).1, decDecLoop_L s fuel]
    -- what is left of `lowerAscii` is applied to a digit
    refine ite_congr rfl (fun _ => bind_congr fun ch => ?_) (fun _ => rfl)
    refine ite_congr rfl (fun _ => rfl) fun _ => ite_congr rfl (fun _ => rfl) fun hd => ?_
    rw [(digit_lower ch).2 (by simpa using hd)]

/-- decoded values of the two spellings: equal, or a literal letter in its two cases -/
def ValRel (v v' : Int) : Prop := v' = v ∨ ∃ x : UInt8, v = x.toNat ∧ v' = (lowerAscii x).toNat

theorem htmlDecodeByteAt_L (s : Bytes) :
    (∃ e, htmlDecodeByteAt s = .error e ∧ htmlDecodeByteAt (L s) = .error e) ∨
    (∃ v v' c, htmlDecodeByteAt s = .ok (v, c) ∧ htmlDecodeByteAt (L s) = .ok (v', c) ∧ ValRel v v') := by
  have same : ∀ X Y : M (Int × Nat), X = Y →
      (∃ e, Y = .error e ∧ X = .error e) ∨ (∃ v v' c, Y = .ok (v, c) ∧ X = .ok (v', c) ∧ ValRel v v') := by
    intro X Y e
    subst e
    cases X with
    | error e => exact Or.inl ⟨e, rfl, rfl⟩
    | ok r => exact Or.inr ⟨r.1, r.1, r.2, rfl, rfl, Or.inl rfl⟩
  unfold htmlDecodeByteAt
  simp only [L_length, at'_L, map_bind, nl_ne 38 (by decide), nl_ne 35 (by decide), x_lower, hexDec_lower, decHexLoop_L,
    (digit_lower _).1, decDecLoop_L]
  by_cases h0 : (s.length == 0) = true
  · simp only [h0, ↓reduceIte]
    exact same _ _ rfl
  simp only [h0, Bool.false_eq_true, ↓reduceIte]
  cases at' s 0 with
  | error e => exact Or.inl ⟨e, rfl, rfl⟩
  | ok c0 =>
    simp only [ok_bind]
    by_cases h1 : (c0 != 38 || decide (s.length < 2)) = true
    · -- a literal byte: the only place where the two values differ
      simp only [h1, ↓reduceIte]
      exact Or.inr ⟨_, _, _, rfl, rfl, Or.inr ⟨c0, rfl, rfl⟩⟩
    simp only [h1, Bool.false_eq_true, ↓reduceIte]
    -- a numeric reference: what is left of `lowerAscii` is applied to the first decimal digit
    refine same _ _ (bind_congr fun c1 => ite_congr rfl (fun _ => rfl) fun _ => bind_congr fun c2 => ?_)
    refine ite_congr rfl (fun _ => rfl) fun _ => ite_congr rfl (fun _ => rfl) fun hd => ?_
    rw [(digit_lower c2).2 (by simpa using hd)]

theorem valRel_facts (v v' : Int) (h : ValRel v v') :
    (decide (v' ≤ 32)) = (decide (v ≤ 32)) ∧ ((v' == 0 || v' == 10) = (v == 0 || v == 10)) ∧ accByte v' = accByte v := by
  rcases h with rfl | ⟨x, rfl, rfl⟩
  · exact ⟨rfl, rfl, rfl⟩
  · exact ⟨caseBlind (fun x : UInt8 => decide ((x.toNat : Int) ≤ 32)) (by decide +kernel) x,
      caseBlind (fun x : UInt8 => (x.toNat : Int) == 0 || (x.toNat : Int) == 10) (by decide +kernel) x,
      caseBlind (fun x : UInt8 => accByte x.toNat) (by decide +kernel) x⟩

theorem startsLoop_L : ∀ (fuel : Nat) (b : Bytes) (first : Bool) (acc : Bytes),
    startsLoop (L b) first acc fuel = startsLoop b first acc fuel
  | 0, _, _, _ => rfl
  | fuel + 1, b, first, acc => by
    unfold startsLoop
    simp only [L_length, L_drop]
    refine ite_congr rfl (fun _ => ?_) (fun _ => rfl)
    rcases htmlDecodeByteAt_L b with ⟨e, h1, h2⟩ | ⟨v, v', c, h1, h2, hrel⟩
    · rw [h1, h2]; rfl
    · obtain ⟨f1, f2, f3⟩ := valRel_facts v v' hrel
      unfold accByte at f3
      rw [h1, h2]
      simp only [ok_bind, f1, f2, f3]
      -- the rest of the input is again a lower-casing
      split
      · simp only [pure, Except.pure, ok_bind, startsLoop_L fuel]
      · rfl

theorem urlJunk_lower (x : UInt8) : urlJunk (lowerAscii x) = urlJunk x := caseBlind urlJunk (by decide +kernel) x

theorem dropWhile_L : ∀ (t : Bytes), (L t).dropWhile urlJunk = L (t.dropWhile urlJunk)
  | [] => rfl
  | x :: xs => by
    simp only [L, List.map_cons, List.dropWhile_cons, urlJunk_lower]
    split
    · exact dropWhile_L xs
    · rfl

theorem anyStarts_L (str : Bytes) : ∀ (us : List Bytes), anyStarts (L str) us = anyStarts str us
  | [] => rfl
  | u :: us => by
    unfold anyStarts htmlEncodeStartsWith
    simp only [L_length, startsLoop_L, anyStarts_L str us]

theorem isBlackURL_L (t : Bytes) : isBlackURL (L t) = isBlackURL t := by
  unfold isBlackURL
  rw [dropWhile_L, anyStarts_L]

theorem slice_L (s : Bytes) (a b : Nat) : slice (L s) a b = (slice s a b).map L := by
  unfold slice
  simp only [L_length]
  split
  · show Except.ok (((L s).drop a).take (b - a)) = Except.ok (L ((s.drop a).take (b - a)))
    rw [L_drop, L_take]
  · rfl

theorem contains96_L : ∀ (t : Bytes), (L t).contains 96 = t.contains 96
  | [] => rfl
  | x :: xs => by
    simp only [L, List.map_cons, List.contains_cons]
    rw [show xs.map lowerAscii = L xs from rfl, contains96_L xs]
    have := nl 96 (by decide) x
    rw [Bool.beq_comm (a := (96 : UInt8)), Bool.beq_comm (a := (96 : UInt8)), this]

theorem commentIsXSS_L (h : H) : commentIsXSS (lowerH h) = commentIsXSS h := by
  unfold commentIsXSS
  simp only [lowerH_s, show (lowerH h).tokStart = h.tokStart from rfl, show (lowerH h).tokLen = h.tokLen from rfl,
    slice_L, offFrom_L, L_drop, at'_L, map_bind, contains96_L, goUpper_L, stripNul_L, nl 91 (by decide)]

theorem lowerH_inv (h : H) (hi : Inv h) : Inv (lowerH h) := by
  obtain ⟨a, b, c, d⟩ := hi
  exact ⟨by show h.pos ≤ (L h.s).length; rw [L_length]; exact a, b, by intro hs; show h.pos < (L h.s).length; rw [L_length]; exact c hs, d⟩

theorem xssLoop_L : ∀ (fuel : Nat) (h : H) (attr : Nat), Inv h → NoCdata h.s →
    xssLoop (lowerH h) attr fuel = xssLoop h attr fuel
  | 0, _, _, _, _ => rfl
  | fuel + 1, h, attr, hi, hno => by
    unfold xssLoop
    obtain ⟨b, h', hr, hs, hb⟩ := next_spec h hi
    rw [next_L h hno, hr]
    cases b with
    | false => rfl
    | true =>
      have hrec : ∀ a, xssLoop (lowerH h') a fuel = xssLoop h' a fuel :=
        fun a => xssLoop_L fuel h' a (hb rfl).2.1 (hs ▸ hno)
      -- every classifier sees the lowered token as it sees the token
      simp only [mapR, Except.map]
      simp only [ok_bind, lowerH_s, show (lowerH h').tokType = h'.tokType from rfl,
        show (lowerH h').tokStart = h'.tokStart from rfl, show (lowerH h').tokLen = h'.tokLen from rfl, slice_L, map_bind,
        isBlackTag_L, isBlackAttr_L, isBlackURL_L, commentIsXSS_L, hrec]

theorem isXSSCtx_L (s : Bytes) (ctx : Nat) (hno : NoCdata s) : isXSSCtx (L s) ctx = isXSSCtx s ctx := by
  unfold isXSSCtx xssFuel
  rw [L_length]
  exact xssLoop_L _ (init s ctx) 0 (init_inv s ctx) hno

/-- C11, letter case. `[CDATA[` is the only marker the tokenizer compares case-sensitively, hence `NoCdata` -/
theorem isXSS_L (s : Bytes) (hno : NoCdata s) : isXSS (L s) = isXSS s := by
  unfold isXSS
  simp only [isXSSCtx_L s _ hno]

theorem isXSS_case_insensitive (s s' : Bytes) (h : CaseEq s s') (hno : NoCdata s) (hno' : NoCdata s') :
    isXSS s = isXSS s' := by
  rw [← isXSS_L s hno, ← isXSS_L s' hno']
  have : L s = L s' := h
  rw [this]

end LibInj.Xss
