import Lean.Meta.Tactic.Simp.RegisterCommand
/-- Naturality of the SQLi primitives under ASCII lower-casing, and the `Except` laws that carry it
through a `do` block: `simp only [lcase]` pushes `L` from the input of a computation to its result. -/
register_simp_attr lcase
