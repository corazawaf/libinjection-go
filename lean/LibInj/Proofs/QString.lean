import LibInj.Proofs.StringCore
import LibInj.Sqli.Lexers
import LibInj.Proofs.Index
/-! Oracle q-strings and PostgreSQL dollar strings end at the first occurrence of their terminator. -/
namespace LibInj.Sqli
open LibInj LibInj.Spec

theorem tokenSize_eq : tokenSize = 32 := rfl

/-- **Oracle q-string** `q'<b>body`: for *every* delimiter byte `b >= 33` (all 223 of them) the literal
ends at the first occurrence of `close(b)` followed by a quote; otherwise it runs to end of input. -/
theorem qstring_spec (qc b : UInt8) (hq : qc = 113 ∨ qc = 81) (hb : 33 ≤ b) (body : Bytes) :
    parseQStringCore (qc :: 39 :: b :: body) 0 = .ok (
      match indexOf body [qClose b, 39] with
      | none => { tok := { cat := 115, pos := 3, len := clip body.length, val := body.take (clip body.length),
                           strOpen := 113, strClose := 0 }, next := 3 + body.length }
      | some i => { tok := { cat := 115, pos := 3, len := clip i, val := body.take (clip i),
                             strOpen := 113, strClose := 113 }, next := 3 + i + 2 }) := by
  have hb' : (b < 33) = False := by simp; exact hb
  have hqc : (qc != 113 && qc != 81) = false := by rcases hq with rfl | rfl <;> decide
  unfold parseQStringCore
  simp only [List.length_cons, at', sliceFrom, bind, Except.bind, pure, Except.pure,
    List.getElem?_cons_zero, List.getElem?_cons_succ, Nat.zero_add, hqc, Bool.false_eq_true, ↓reduceIte,
    show ¬ (0 ≥ body.length + 1 + 1 + 1) by omega, show ¬ (0 + 2 ≥ body.length + 1 + 1 + 1) by omega,
    bne_self_eq_false, hb', List.drop_succ_cons, List.drop_zero,
    show 0 + 3 ≤ body.length + 1 + 1 + 1 by omega]
  cases hi : indexOf body [qClose b, 39] with
  | none =>
    simp only []
    have e : body.length + 1 + 1 + 1 - 0 - 3 = body.length := by omega
    rw [e, assign_ok _ _ _ _ _ (by have := clip_le body.length; omega)]
    simp
    omega
  | some i =>
    have := indexOf_le hi
    simp only []
    rw [assign_ok _ _ _ _ _ (by have := clip_le i; omega)]

theorem spn_append_stop (p : UInt8 → Bool) (l : Bytes) (c : UInt8) (r : Bytes)
    (hl : l.all p = true) (hc : p c = false) : spn p (l ++ c :: r) = l.length := by
  induction l with
  | nil => simp [spn, hc]
  | cons x xs ih =>
    simp only [List.all_cons, Bool.and_eq_true] at hl
    simp [spn, hl.1, ih hl.2]

/-- **`$$body`**: the literal ends at the first `$$`. -/
theorem dollar_dollar_spec (body : Bytes) :
    parseMoney (36 :: 36 :: body) = .ok (
      match indexOf body [36, 36] with
      | none => { tok := { cat := 115, pos := 2, len := clip body.length, val := body.take (clip body.length),
                           strOpen := 36, strClose := 0 }, next := 2 + body.length }
      | some i => { tok := { cat := 115, pos := 2, len := clip i, val := body.take (clip i),
                             strOpen := 36, strClose := 36 }, next := 2 + i + 2 }) := by
  have h36 : isMoneyChar 36 = false := by decide
  unfold parseMoney
  simp only [List.length_cons, at', sliceFrom, bind, Except.bind, pure, Except.pure,
    List.getElem?_cons_zero, List.getElem?_cons_succ, List.drop_succ_cons, List.drop_zero, spn, h36,
    Bool.false_eq_true, ↓reduceIte, beq_self_eq_true,
    show ¬ ((1 == body.length + 1 + 1) = true) by simp,
    show 1 ≤ body.length + 1 + 1 by omega, show 2 ≤ body.length + 1 + 1 by omega]
  cases hi : indexOf body [36, 36] with
  | none =>
    simp only []
    have e : body.length + 1 + 1 - 2 = body.length := by omega
    rw [e, assign_ok _ _ _ _ _ (by have := clip_le body.length; omega)]
    simp
    omega
  | some i =>
    have := indexOf_le hi
    simp only []
    rw [assign_ok _ _ _ _ _ (by have := clip_le i; omega)]

theorem isLetter_not_money (c : UInt8) (h : isLetter c = true) : isMoneyChar c = false := by
  cases hm : isMoneyChar c with
  | false => rfl
  | true =>
    simp [isMoneyChar, mem, moneyChars] at hm
    rcases hm with h1|h1|h1|h1|h1|h1|h1|h1|h1|h1|h1|h1 <;> (subst h1; revert h; decide)
theorem isLetter_ne_36 (c : UInt8) (h : isLetter c = true) : (c == 36) = false := by
  cases hm : c == 36 with
  | false => rfl
  | true => have : c = 36 := by simpa using hm
            subst this; revert h; decide

/-- **`$tag$body`** (tag a non-empty run of ASCII letters): the literal ends at the first repetition
of `$tag$`. -/
theorem dollar_tag_spec (t0 : UInt8) (tag body : Bytes) (h0 : isLetter t0 = true) (ht : tag.all isLetter = true) :
    parseMoney (36 :: t0 :: (tag ++ 36 :: body)) = .ok (
      let opener : Bytes := 36 :: t0 :: (tag ++ [36])
      match indexOf body opener with
      | none => { tok := { cat := 115, pos := opener.length, len := clip body.length, val := body.take (clip body.length),
                           strOpen := 36, strClose := 0 }, next := opener.length + body.length }
      | some i => { tok := { cat := 115, pos := opener.length, len := clip i, val := body.take (clip i),
                             strOpen := 36, strClose := 36 }, next := opener.length + i + opener.length }) := by
  have hm : isMoneyChar t0 = false := isLetter_not_money t0 h0
  have hne : (t0 == 36) = false := isLetter_ne_36 t0 h0
  have hl36 : isLetter 36 = false := by decide
  have hx : spn isLetter (t0 :: (tag ++ 36 :: body)) = tag.length + 1 := by
    have := spn_append_stop isLetter (t0 :: tag) 36 body (by simp [h0, ht]) hl36
    simpa using this
  have hmoney : spn isMoneyChar (t0 :: (tag ++ 36 :: body)) = 0 := by simp [spn, hm]
  have hlen : (36 :: t0 :: (tag ++ 36 :: body)).length = tag.length + body.length + 3 := by simp; omega
  have hget : (36 :: t0 :: (tag ++ 36 :: body))[tag.length + 1 + 1]? = some 36 := by
    simp
  have hdrop : (36 :: t0 :: (tag ++ 36 :: body)).drop (tag.length + 1 + 2) = body := by
    simp [List.drop_append]
  have htake : (36 :: t0 :: (tag ++ 36 :: body)).take (tag.length + 1 + 2 - 0) = 36 :: t0 :: (tag ++ [36]) := by
    simp [List.take_append, List.take_of_length_le]
  have hdrop2 : (tag ++ 36 :: body).drop (tag.length + 1) = body := by
    simp [List.drop_append]
  unfold parseMoney
  simp only [hlen, at', sliceFrom, slice, bind, Except.bind, pure, Except.pure,
    List.getElem?_cons_zero, List.getElem?_cons_succ, List.drop_succ_cons, List.drop_zero, hmoney, hx, hne,
    Bool.false_eq_true, ↓reduceIte, beq_self_eq_true,
    show ¬ ((1 == tag.length + body.length + 3) = true) by simp,
    show 1 ≤ tag.length + body.length + 3 by omega,
    show ¬ ((tag.length + 1 == 0) = true) by simp,
    show ¬ ((tag.length + 1 + 1 == tag.length + body.length + 3) = true) by simp; omega,
    g, byteNe, hget, bne_self_eq_false,
    show tag.length + 1 + 2 ≤ tag.length + body.length + 3 by omega,
    show (0 ≤ tag.length + 1 + 2 ∧ tag.length + 1 + 2 ≤ tag.length + body.length + 3) by omega]
  simp only [htake, hdrop2, orM, toBool, bind, Except.bind, Bool.false_eq_true, ↓reduceIte, and_self]
  cases hi : indexOf body (36 :: t0 :: (tag ++ [36])) with
  | none =>
    simp only []
    have e : tag.length + body.length + 3 - (tag.length + 1) - 2 = body.length := by omega
    rw [e, assign_ok _ _ _ _ _ (by have := clip_le body.length; omega)]
    simp
    omega
  | some i =>
    have := indexOf_le hi
    simp only []
    rw [assign_ok _ _ _ _ _ (by have := clip_le i; omega)]
    simp
    omega

end LibInj.Sqli
