import LibInj.Proofs.FoldOK
/-! C12: in the in-quote reading the string token stays in slot 0 through `fold` and is the only token
at offset 0. So `merge` never rewrites a token at offset 0, and the fingerprint begins with `s` (or is `X`):
the `1c` whitelist rule, which reads the input at the first token's offset, is never reached by a quote reading. -/
namespace LibInj.Sqli
open LibInj

def PostP {α : Type} (P : α → Prop) (X : M α) : Prop := ∀ r, X = .ok r → P r

theorem post_bind {α β : Type} (Q : α → Prop) (P : β → Prop) (x : M α) (f : α → M β) (hx : PostP Q x)
    (hf : ∀ a, Q a → PostP P (f a)) : PostP P (x >>= f) := by
  intro r hr
  cases x with
  | error e => cases hr
  | ok a => exact hf a (hx a rfl) r hr

theorem post_any {α β : Type} (P : β → Prop) (x : M α) (f : α → M β) (hf : ∀ a, PostP P (f a)) : PostP P (x >>= f) :=
  post_bind (fun _ => True) P x f (fun _ _ => trivial) (fun a _ => hf a)

theorem post_ite {α : Type} (P : α → Prop) (c : Prop) [Decidable c] (A B : M α) (hA : c → PostP P A) (hB : ¬ c → PostP P B) :
    PostP P (if c then A else B) := by
  by_cases h : c
  · rw [if_pos h]; exact hA h
  · rw [if_neg h]; exact hB h

theorem post_pure {α : Type} (P : α → Prop) (a : α) (h : P a) : PostP P (pure a : M α) := by
  intro r hr; cases hr; exact h

/-- a token at offset 0 is an empty slot -/
def Quiet (t : Token) : Prop := t.pos = 0 → t.cat = 0

theorem quiet_of_pos {t : Token} (h : t.pos ≠ 0) : Quiet t := fun hp => absurd hp h

/-- the string token of the quote reading sits in slot 0, every other token lies further right,
and so does the scanner -/
def Slot0 (s : State) : Prop :=
  (∃ t, s.tv[0]? = some t ∧ t.cat = 115) ∧ (∀ i t, i ≠ 0 → s.tv[i]? = some t → Quiet t) ∧ 1 ≤ s.pos

/-- what the loop variables of `fold` keep (`K`) in a quote reading; `KStep`, `KTwo`: the same of a stage's outcome -/
def KF (f : FS) : Prop := Slot0 f.s ∧ 1 ≤ f.pos ∧ Quiet f.lastComment

theorem tvGet_post (s : State) (i : Nat) : PostP (fun t => s.tv[i]? = some t) (tvGet s i) :=
  fun _ h => tvGet_some h

theorem tvSet_post (s : State) (i : Nat) (t : Token) (h0 : Slot0 s) (hi : i ≠ 0) (ht : Quiet t) :
    PostP (fun s' => Slot0 s' ∧ s'.cur = s.cur) (tvSet s i t) := by
  intro s' h
  unfold tvSet at h
  split at h
  · rename_i hlt
    cases h
    obtain ⟨⟨t0, ht0, hc⟩, hq, hp⟩ := h0
    refine ⟨⟨⟨t0, ?_, hc⟩, ?_, hp⟩, rfl⟩
    · show (s.tv.set i t)[0]? = some t0
      rw [List.getElem?_set_ne hi]
      exact ht0
    · intro j t' hj hget
      change (s.tv.set i t)[j]? = some t' at hget
      by_cases hij : i = j
      · subst hij
        rw [List.getElem?_set_self hlt] at hget
        cases hget
        exact ht
      · rw [List.getElem?_set_ne hij] at hget
        exact hq j t' hj hget
  · cases h

/-- a rule that fires on the class of a token looks neither at the string in slot 0 nor at an empty slot -/
theorem window_tok (s : State) (h0 : Slot0 s) (l : Nat) (a : Token) (ha : s.tv[l]? = some a)
    (hc : ¬ (a.cat = 115 ∨ a.cat = 0)) : l ≠ 0 ∧ a.pos ≠ 0 := by
  have hl : l ≠ 0 := by
    intro hl
    obtain ⟨⟨t0, ht0, h115⟩, _⟩ := h0
    rw [hl, ht0] at ha
    cases ha
    exact hc (Or.inl h115)
  exact ⟨hl, fun hp => hc (Or.inr (h0.2.1 l a hl ha hp))⟩

theorem mergeA_window {c : UInt8} (h : mergeA c = true) : ¬ (c = 115 ∨ c = 0) := by
  rintro (hc | hc) <;> rw [hc] at h <;> exact absurd h (by decide)

theorem dec_post (f : FS) (k : Nat) : PostP (fun x => x = { f with pos := f.pos - k }) (f.dec k) := by
  intro x h
  by_cases hk : k ≤ f.pos
  · rw [dec_ok f k hk] at h
    exact (Except.ok.inj h).symm
  · unfold FS.dec sub at h
    simp only [hk, ↓reduceIte, bind, Except.bind] at h
    cases h

theorem merge_post (a b : Token) :
    PostP (fun o => ∀ a', o = some a' → ¬ (a.cat = 115 ∨ a.cat = 0) ∧ a'.pos = a.pos) (merge a b) := by
  unfold merge
  refine post_ite _ _ _ _ (fun _ => post_pure _ _ (fun _ h => nomatch h)) (fun hA => ?_)
  have hw := mergeA_window (c := a.cat) (by simpa using hA)
  refine post_ite _ _ _ _ (fun _ => post_pure _ _ (fun _ h => nomatch h)) (fun _ => ?_)
  refine post_ite _ _ _ _ (fun _ => post_pure _ _ (fun _ h => nomatch h)) (fun _ => ?_)
  refine post_any _ _ _ (fun x => ?_)
  refine post_any _ _ _ (fun y => ?_)
  refine post_ite _ _ _ _ (fun _ => ?_) (fun _ => post_pure _ _ (fun _ h => nomatch h))
  rw [assign_ok _ _ _ _ _ (clip_le _)]
  intro o ho a' ha'
  cases ho
  cases ha'
  exact ⟨hw, rfl⟩

def KStep : Step → Prop
  | .cont f => KF f
  | .brk f => KF f ∧ 1 ≤ f.left
  | .ret _ f => Slot0 f.s

def KTwo : Two → Prop
  | .done st => KStep st
  | .next f => KF f

end LibInj.Sqli
