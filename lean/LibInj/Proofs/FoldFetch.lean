import LibInj.Proofs.FoldRel
/-! Safety of `fold`, part 3: the 5-token special cases and the token-fetching loops (C01). -/
namespace LibInj.Sqli
open LibInj

/-- the 5-token special cases: the window shrinks to one or two tokens (slot 1 then takes the token of
slot 5), or nothing happens; like every rule they leave the rest of the scanner state alone -/
theorem foldSpecial_rebuild (f : FS) (hf : FInv f) :
    ∃ tv p l, foldSpecial f = .ok (f.rebuild tv f.s.folds p l) ∧ WinOK f tv ∧ (∀ t ∈ tv, t ∈ f.s.tv) ∧ l ≤ p ∧
      p ≤ f.pos ∧ (f.rebuild tv f.s.folds p l = f ∨ p < f.pos) := by
  have stay : ∃ tv p l, Except.ok (ε := Err) f = .ok (f.rebuild tv f.s.folds p l) ∧ WinOK f tv ∧
      (∀ t ∈ tv, t ∈ f.s.tv) ∧ l ≤ p ∧ p ≤ f.pos ∧ (f.rebuild tv f.s.folds p l = f ∨ p < f.pos) :=
    ⟨f.s.tv, f.pos, f.left, rfl, winOK_same hf, fun _ h => h, hf.2.1, Nat.le_refl _, Or.inl rfl⟩
  unfold foldSpecial
  by_cases hp : f.pos ≥ maxTokens
  · have hp5 : 5 ≤ f.pos := hp
    obtain ⟨b, hb⟩ := special5_ok f.s hf.1
    obtain ⟨t5, h5, ht5⟩ := tvGet_ok f.s hf.1 5 (by omega)
    have g5 := List.mem_of_getElem? (tvGet_some h5)
    simp only [hp, hb, h5, tvSet_sinv hf.1 (show 1 < 8 by omega), ↓reduceIte, bind, Except.bind, pure, Except.pure]
    cases b with
    | false => exact stay
    | true =>
      by_cases hp' : f.pos > maxTokens
      · simp only [hp', ↓reduceIte]
        refine ⟨_, 2, 0, rfl, winOK_set hf 1 ht5 (Or.inl g5), fun t ht => ?_, Nat.zero_le _, by omega, Or.inr (by omega)⟩
        rcases List.mem_or_eq_of_mem_set ht with h | h
        · exact h
        · rw [h]; exact g5
      · simp only [hp', ↓reduceIte]
        exact ⟨_, 1, 0, rfl, winOK_same hf, fun t h => h, Nat.zero_le _, by omega, Or.inr (by omega)⟩
  · simp only [hp, ↓reduceIte, pure, Except.pure]
    exact stay

theorem foldSpecial_ok' (f : FS) (hf : FInv f) :
    ∃ f', foldSpecial f = .ok f' ∧ FInv f' ∧ Evol f f' ∧ (f' = f ∨ f'.pos < f.pos) ∧ (∀ t ∈ f'.s.tv, t ∈ f.s.tv) := by
  obtain ⟨tv, p, l, h, hw, hm, hl, hp, hd⟩ := foldSpecial_rebuild f hf
  have hr := rebuild_ok hf hw f.s.folds hl (Nat.le_trans hp hf.2.2.1)
  exact ⟨_, h, hr.1, hr.2, hd, hm⟩

theorem foldSpecial_ok (f : FS) (hf : FInv f) :
    ∃ f', foldSpecial f = .ok f' ∧ FInv f' ∧ f'.s.input = f.s.input ∧ f'.more = f.more := by
  obtain ⟨f', h, hf', hev, _⟩ := foldSpecial_ok' f hf
  exact ⟨f', h, hf', hev.1, hev.2.2.2.2.1⟩

/-- the loop condition of `fetch` -/
def fetchCond (f : FS) (k : Nat) : Prop :=
  (f.more && decide (f.pos ≤ maxTokens) && decide (f.pos - f.left < k)) = true

/-- one successful `tokenize` inside `fetch` keeps the invariant behind `notWhitelist`: the new token
`t'` is a comment and becomes `lastComment`, or it is none and `lastComment` is cleared. (`XInv` does
not look at `pos`, `left`, `more`.) -/
theorem xinv_fetch_more (f : FS) (s' : State) (t' lc : Token) (p l : Nat) (m : Bool)
    (hstep : TokStep { f.s with cur := f.pos } true s') (hget : s'.tv[f.pos]? = some t')
    (hlc : (t'.cat = 99 ∧ lc = t') ∨ (t'.cat ≠ 99 ∧ lc.cat = 0)) (hat : t'.pos + t'.len ≤ s'.pos)
    (hx : XInv f) : XInv { s := s', pos := p, left := l, more := m, lastComment := lc } := by
  obtain ⟨x1, x2, x3⟩ := hx
  obtain ⟨hin, _, _, _, hpos, _, _, _, _, _, _, hcount, _⟩ := id hstep
  simp only at hin hpos hcount
  obtain ⟨etoks, q, q1, q2, q3⟩ := hcount trivial
  -- a token of the new window is an old one or `t'`
  have hmem : ∀ t ∈ s'.tv, t ∈ f.s.tv ∨ t = t' := fun t ht =>
    (mem_of_step hstep t ht).imp id fun h => (Option.some.inj (hget.symm.trans h)).symm
  refine ⟨by show 1 ≤ s'.toks; omega, fun h => by have : s'.toks ≤ 1 := h; omega, ?_⟩
  intro htk t ht hn
  have hnc : ¬ hasCom f := x2 (by have : s'.toks ≤ 2 := htk; omega)
  -- the only comment there can be is `t'`
  have hcom : hasCom { s := s', pos := p, left := l, more := m, lastComment := lc } → t'.cat = 99 := by
    rintro ⟨u, hu | hu, hu99⟩
    · rcases hmem u hu with h | h
      · exact absurd ⟨u, Or.inl h, hu99⟩ hnc
      · exact h ▸ hu99
    · rcases hlc with ⟨h, _⟩ | ⟨_, h0⟩
      · exact h
      · have : u = lc := hu
        rw [this, h0] at hu99; exact absurd hu99 (by decide)
  show t.pos + t.len ≤ s'.pos ∧ (_ → Wit s'.input _)
  rcases hmem t ht with h | h
  · have hb := (x3 (by have : s'.toks ≤ 2 := htk; omega) t h hn).1
    exact ⟨by omega, fun hc => ⟨q, by omega, hin ▸ q2, hin ▸ q3 t' hget (hcom hc)⟩⟩
  · refine ⟨h ▸ hat, fun hc => ?_⟩
    exact absurd hn (not_isNum (h ▸ hcom hc) (by decide))

theorem xinv_fetch_end (f : FS) (s' : State)
    (hstep : TokStep { f.s with cur := f.pos } false s') (hx : XInv f) : XInv { f with s := s', more := false } := by
  have hstep0 := hstep
  obtain ⟨q1, q2, q3, q4, q5, q6, q7, q8, q9, q10, q11, q12, q13⟩ := hstep
  simp only at q1 q2 q3 q4 q5 q6 q7 q8 q9 q10 q11 q12 q13
  obtain ⟨x1, x2, x3⟩ := hx
  have hmem : ∀ t, t ∈ s'.tv → t ∈ f.s.tv ∨ t.cat = 0 := by
    intro t ht
    rcases mem_of_step hstep0 t ht with h | h
    · exact Or.inl h
    · rcases q13 trivial t h with h0 | h0
      · exact Or.inr h0
      · exact Or.inl (List.mem_of_getElem? h0)
  have hcom : hasCom { f with s := s', more := false } → hasCom f := by
    rintro ⟨u, hu, hu99⟩
    rcases hu with hu | hu
    · rcases hmem u hu with h | h
      · exact ⟨u, Or.inl h, hu99⟩
      · rw [h] at hu99; exact absurd hu99 (by decide)
    · exact ⟨u, Or.inr hu, hu99⟩
  refine ⟨by show 1 ≤ s'.toks; omega, fun h hc => x2 (by have : s'.toks ≤ 1 := h; omega) (hcom hc), ?_⟩
  intro htk t ht hn
  have htk' : f.s.toks ≤ 2 := by have : s'.toks ≤ 2 := htk; omega
  show t.pos + t.len ≤ s'.pos ∧ (_ → Wit s'.input _)
  rw [q1]
  rcases hmem t ht with h | h
  · obtain ⟨y1, y2⟩ := x3 htk' t h hn
    exact ⟨by omega, fun hc => y2 (hcom hc)⟩
  · exact absurd hn (not_isNum h (by decide))

/-- a run of the token-fetching loop from `g` to `g'`: it keeps the invariants and `left`, never lowers
`pos`; it either did nothing (its condition was false), or ended the input, or read input -/
def Fetched (k : Nat) (g g' : FS) : Prop :=
  FInv g' ∧ g'.left = g.left ∧ g.pos ≤ g'.pos ∧ g'.s.input = g.s.input ∧ g.s.pos ≤ g'.s.pos ∧ (XInv g → XInv g') ∧
    ((g' = g ∧ ¬ fetchCond g k) ∨ g'.more = false ∨ g.s.pos < g'.s.pos) ∧ (g.more = false → g' = g)

/-- the conclusion is `Fetched k f f'` written out -/
theorem fetch_ok' (k : Nat) (fuel : Nat) : ∀ (f : FS), FInv f → f.s.input.length - f.s.pos + 1 < fuel →
    ∃ f', fetch f k fuel = .ok f' ∧ FInv f' ∧ f'.left = f.left ∧ f.pos ≤ f'.pos ∧ f'.s.input = f.s.input ∧
      f.s.pos ≤ f'.s.pos ∧ (XInv f → XInv f') ∧
      ((f' = f ∧ ¬ fetchCond f k) ∨ f'.more = false ∨ f.s.pos < f'.s.pos) ∧ (f.more = false → f' = f) := by
  induction fuel with
  | zero => intro f _ hf; omega
  | succ fuel ih =>
    intro f hf hfu
    obtain ⟨hs, hlp, hp6, hlc⟩ := hf
    unfold fetch
    by_cases hc : (f.more && decide (f.pos ≤ maxTokens) && decide (f.pos - f.left < k)) = true
    · have hp5 : f.pos ≤ 5 := by
        simp only [Bool.and_eq_true, decide_eq_true_eq] at hc; exact hc.1.2
      obtain ⟨more, s', hr, hs', hstep⟩ := tokenize_sinv { f.s with cur := f.pos } ⟨hs.1, hs.2.1, hs.2.2⟩ (by show f.pos < 8; omega)
      have hstep' := hstep
      obtain ⟨q1, q2, q3, q4, q5, q6, q7, q8, q9, q10, q11⟩ := hstep
      simp only at q1 q2 q3 q4 q5 q6 q7 q8 q9 q10
      simp only [hc, ↓reduceIte, hr, bind, Except.bind]
      cases more with
      | false =>
        simp only [Bool.false_eq_true, ↓reduceIte]
        cases fuel with
        | zero => omega
        | succ fuel' =>
          unfold fetch
          simp only [Bool.false_and, Bool.false_eq_true, ↓reduceIte, pure, Except.pure]
          have hm : f.more = true := by simp only [Bool.and_eq_true] at hc; exact hc.1.1
          exact ⟨_, rfl, ⟨hs', hlp, hp6, hlc⟩, rfl, Nat.le_refl _, q1, q5, xinv_fetch_end f s' hstep', Or.inr (Or.inl rfl),
            fun h => by rw [hm] at h; cases h⟩
      | true =>
        obtain ⟨hadv, t', ht', htc, ⟨ti, tlo, thi, _, tcat⟩⟩ := q8 rfl
        have hget : tvGet s' s'.cur = .ok t' := tvGet_of_some (by rw [q3]; exact ht')
        simp only [↓reduceIte, hget]
        have hfuel : s'.input.length - s'.pos + 1 < fuel := by
          rw [q1]
          show f.s.input.length - s'.pos + 1 < fuel
          have : f.s.pos < s'.pos := hadv
          omega
        have hm : f.more = true := by simp only [Bool.and_eq_true] at hc; exact hc.1.1
        -- comment or not, the loop goes on around the new scanner state, which has read input
        have go : ∀ (p : Nat) (lc : Token), f.left ≤ p → f.pos ≤ p → p ≤ 6 → TokF lc →
            (t'.cat = 99 ∧ lc = t') ∨ (t'.cat ≠ 99 ∧ lc.cat = 0) →
            ∃ f', fetch { s := s', pos := p, left := f.left, more := true, lastComment := lc } k fuel = .ok f' ∧
              Fetched k f f' := by
          intro p lc h1 h2 h3 h4 h5
          obtain ⟨f', hf', hi', hl', hp', hin', hsp', hx', _, _⟩ := ih ⟨s', p, f.left, true, lc⟩ ⟨hs', h1, h3, h4⟩ hfuel
          have : s'.pos ≤ f'.s.pos := hsp'
          exact ⟨f', hf', hi', hl', Nat.le_trans h2 hp', hin'.trans q1, by omega,
            fun hx => hx' (xinv_fetch_more f s' t' lc _ _ _ hstep' ht' h5 thi hx), Or.inr (Or.inr (by omega)),
            fun h => by rw [hm] at h; cases h⟩
        by_cases hcm : (t'.cat == 99) = true
        · rw [if_pos hcm]
          exact go f.pos t' hlp (Nat.le_refl _) hp6 ⟨ti, tcat⟩ (Or.inl ⟨by simpa using hcm, rfl⟩)
        · rw [if_neg hcm]
          exact go (f.pos + 1) { f.lastComment with cat := 0 } (by omega) (by omega) (by omega)
            (hlc.recat 0 (catLit_ok (by decide))) (Or.inr ⟨by simpa using hcm, rfl⟩)
    · simp only [hc, Bool.false_eq_true, ↓reduceIte, pure, Except.pure]
      exact ⟨f, rfl, ⟨hs, hlp, hp6, hlc⟩, rfl, Nat.le_refl _, rfl, Nat.le_refl _, id, Or.inl ⟨rfl, hc⟩, fun _ => rfl⟩

theorem fetch_fuel_ok (f : FS) : f.s.input.length - f.s.pos + 1 < fetchFuel f.s.input.length := by
  unfold fetchFuel; omega

end LibInj.Sqli
