import LibInj.Proofs.GrammarEval.S00
import LibInj.Proofs.GrammarEval.S01
import LibInj.Proofs.GrammarEval.S02
import LibInj.Proofs.GrammarEval.S03
import LibInj.Proofs.GrammarEval.S04
import LibInj.Proofs.GrammarEval.S05
import LibInj.Proofs.GrammarEval.S06
import LibInj.Proofs.GrammarEval.S07
import LibInj.Proofs.GrammarEval.S08
import LibInj.Proofs.GrammarEval.S09
import LibInj.Proofs.GrammarEval.S10
import LibInj.Proofs.GrammarEval.S11
import LibInj.Proofs.GrammarEval.S12
import LibInj.Proofs.GrammarEval.P
/-! C03: every skeleton of the grammar, evaluated by the kernel on the model against the regenerated
tables. Per skeleton there is one evaluation for the tails and one for the separators: each shares the
kernel's cache over its 72 / 78 members and stays within the default limits. The evaluations are spread
over the modules `GrammarEval/S00 … S12` (four skeletons each, three in the last) and `GrammarEval/P` (the parenthesis-closing
skeletons and the truncation table) only so that they are checked in parallel. -/
namespace LibInj.Sqli
open LibInj LibInj.Spec.SqliGrammar

theorem skeletons_length : skeletons.length = 51 := by decide
theorem paren_skeletons_length : parenSkeletons.length = 5 := by decide

theorem all_skeletons_ok (k : Nat) (hk : k < 51) :
    tailsOK prefixes (skel k) = true ∧ sepsOK prefixes (skel k) = true :=
  match k, hk with
  | 0, _ => GrammarEval.s00
  | 1, _ => GrammarEval.s01
  | 2, _ => GrammarEval.s02
  | 3, _ => GrammarEval.s03
  | 4, _ => GrammarEval.s04
  | 5, _ => GrammarEval.s05
  | 6, _ => GrammarEval.s06
  | 7, _ => GrammarEval.s07
  | 8, _ => GrammarEval.s08
  | 9, _ => GrammarEval.s09
  | 10, _ => GrammarEval.s10
  | 11, _ => GrammarEval.s11
  | 12, _ => GrammarEval.s12
  | 13, _ => GrammarEval.s13
  | 14, _ => GrammarEval.s14
  | 15, _ => GrammarEval.s15
  | 16, _ => GrammarEval.s16
  | 17, _ => GrammarEval.s17
  | 18, _ => GrammarEval.s18
  | 19, _ => GrammarEval.s19
  | 20, _ => GrammarEval.s20
  | 21, _ => GrammarEval.s21
  | 22, _ => GrammarEval.s22
  | 23, _ => GrammarEval.s23
  | 24, _ => GrammarEval.s24
  | 25, _ => GrammarEval.s25
  | 26, _ => GrammarEval.s26
  | 27, _ => GrammarEval.s27
  | 28, _ => GrammarEval.s28
  | 29, _ => GrammarEval.s29
  | 30, _ => GrammarEval.s30
  | 31, _ => GrammarEval.s31
  | 32, _ => GrammarEval.s32
  | 33, _ => GrammarEval.s33
  | 34, _ => GrammarEval.s34
  | 35, _ => GrammarEval.s35
  | 36, _ => GrammarEval.s36
  | 37, _ => GrammarEval.s37
  | 38, _ => GrammarEval.s38
  | 39, _ => GrammarEval.s39
  | 40, _ => GrammarEval.s40
  | 41, _ => GrammarEval.s41
  | 42, _ => GrammarEval.s42
  | 43, _ => GrammarEval.s43
  | 44, _ => GrammarEval.s44
  | 45, _ => GrammarEval.s45
  | 46, _ => GrammarEval.s46
  | 47, _ => GrammarEval.s47
  | 48, _ => GrammarEval.s48
  | 49, _ => GrammarEval.s49
  | 50, _ => GrammarEval.s50
  | k + 51, h => absurd h (by omega)

theorem all_paren_skeletons_ok (k : Nat) (hk : k < 5) :
    tailsOK parenPrefixes (pskel k) = true ∧ sepsOK parenPrefixes (pskel k) = true :=
  match k, hk with
  | 0, _ => GrammarEval.p0
  | 1, _ => GrammarEval.p1
  | 2, _ => GrammarEval.p2
  | 3, _ => GrammarEval.p3
  | 4, _ => GrammarEval.p4
  | k + 5, h => absurd h (by omega)

end LibInj.Sqli
