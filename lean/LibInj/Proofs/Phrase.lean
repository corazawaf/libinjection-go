import LibInj.Proofs.KwFacts
/-! Table fact used by `fold`'s `merge`: a key that contains a space (a phrase such as `GROUP BY`) never
has the class of a number (`1`), a backslash (`\`) or a comment (`c`). Re-checked by the kernel
against the regenerated table on every build. -/
namespace LibInj.Sqli
open LibInj LibInj.Tables

theorem keyNat_snoc (w : Bytes) (c : UInt8) : keyNat (w ++ [c]) = keyNat w * 256 + c.toNat := by
  simp [keyNat, List.foldl_append]

theorem keyNat_mod (w : Bytes) (c : UInt8) : keyNat (w ++ [c]) % 256 = c.toNat := by
  have := c.toNat_lt
  rw [keyNat_snoc]; omega

theorem keyNat_div (w : Bytes) (c : UInt8) : keyNat (w ++ [c]) / 256 = keyNat w := by
  have := c.toNat_lt
  rw [keyNat_snoc]; omega

theorem noByte_keyNat_rev : ∀ (r : Bytes), (32 : UInt8) ∈ r → noByte 32 r.length (keyNat r.reverse) = false
  | [], h => by cases h
  | c :: r', h => by
    rw [List.reverse_cons, List.length_cons, noByte, keyNat_mod, keyNat_div]
    rcases List.mem_cons.mp h with h32 | h32
    · subst h32; rfl
    · rw [noByte_keyNat_rev r' h32]; simp

theorem noByte_keyNat (w : Bytes) (h : (32 : UInt8) ∈ w) : noByte 32 w.length (keyNat w) = false := by
  have := noByte_keyNat_rev w.reverse (by simpa using h)
  simpa using this

theorem mem32_goUpper (w : Bytes) (h : (32 : UInt8) ∈ w) : (32 : UInt8) ∈ goUpper w := by
  fun_induction goUpper w with
  | case1 => cases h
  | case2 t ih => exact List.mem_cons_of_mem _ (ih (by simpa using h))
  | case3 t ih => exact List.mem_cons_of_mem _ (ih (by simpa using h))
  | case4 c t _ _ ih =>
    rcases List.mem_cons.mp h with rfl | h
    · exact List.mem_cons_self
    · exact List.mem_cons_of_mem _ (ih h)

theorem searchKeyword_phrase (w : Bytes) (h : (32 : UInt8) ∈ w) :
    searchKeyword w ≠ 49 ∧ searchKeyword w ≠ 92 ∧ searchKeyword w ≠ 99 := by
  rcases searchKeyword_found w with h0 | ⟨v, hl, hv⟩
  · rw [h0]; decide
  · rw [hv]
    have hok := kw_fact keywords_valOK hl
    have hp := kw_fact keywords_phraseOK hl
    simp only [valOK, Bool.and_eq_true, Nat.blt_eq] at hok
    have hv128 : v < 128 := hok.1.1.1
    simp only [phraseOK, Bool.or_eq_true, Bool.not_eq_true', Bool.or_eq_false_iff] at hp
    rcases hp with ⟨⟨p1, p2⟩, p3⟩ | hp
    · refine ⟨fun e => ?_, fun e => ?_, fun e => ?_⟩
      · rw [toUInt8_inj hv128 (by decide : 49 < 128) e] at p1; cases p1
      · rw [toUInt8_inj hv128 (by decide : 92 < 128) e] at p2; cases p2
      · rw [toUInt8_inj hv128 (by decide : 99 < 128) e] at p3; cases p3
    · -- the key contains the space of the word
      rw [noByte_keyNat (goUpper w) (mem32_goUpper w h)] at hp; cases hp

end LibInj.Sqli
