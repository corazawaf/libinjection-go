import LibInj.Proofs.FoldFetch
/-! Safety of `fold`, part 4: the two- and three-token rewrite rules never err, keep the invariants,
only rewrite the window, and strictly lower the measure (C01). -/
namespace LibInj.Sqli
open LibInj

theorem dec_ok (f : FS) (k : Nat) (hk : k ≤ f.pos) : f.dec k = .ok { f with pos := f.pos - k } := by
  simp [FS.dec, sub, hk, bind, Except.bind, pure, Except.pure]

/-- an iteration outcome that keeps the invariant and the input -/
def StepOK (input : Bytes) : Step → Prop
  | .cont f' => FInv f' ∧ f'.s.input = input
  | .brk f' => FInv f' ∧ f'.s.input = input
  | .ret n f' => FInv f' ∧ f'.s.input = input ∧ n ≤ 7

def TwoOK (f : FS) : Two → Prop
  | .done st => StepOK f.s.input st
  | .next f' => FInv f' ∧ f'.s.input = f.s.input ∧ f'.pos = f.pos ∧ f'.left ≤ f.left ∧ f'.more = f.more ∧ f'.s.pos = f.s.pos

/-- what a finished iteration did to the window and the measure -/
def StepRel (f : FS) : Step → Prop
  | .cont f' => Evol f f' ∧ Lt f f'
  | .brk f' => Evol f f'
  | .ret _ f' => Evol f f'

def TwoRel (f : FS) : Two → Prop
  | .done st => StepRel f st
  | .next f' => Evol f f' ∧ Le f f'

/-- an iteration outcome that keeps the invariant and the input, together with what it did -/
def StepAll (f : FS) (st : Step) : Prop := StepOK f.s.input st ∧ StepRel f st

theorem finv_state (f : FS) (hf : FInv f) (s' : State) (hs' : SInv s') (p l folds : Nat) (hl : l ≤ p) (hp : p ≤ 6) :
    FInv { f with pos := p, left := l, s := { s' with folds := folds } } :=
  ⟨⟨hs'.1, hs'.2.1, hs'.2.2⟩, hl, hp, hf.2.2.2⟩

/-! ## what a rule may do

Every rule either drops tokens (`pos` goes down; it may store one token of the window in another slot
first), or keeps `pos` and re-categorises one token, which lowers `mu` by the weights `wcat`. -/

theorem rule_drop {f : FS} (hf : FInv f) {tv : List Token} (hw : WinOK f tv) (k : Nat) {p l : Nat} (hl : l ≤ p)
    (hp : p < f.pos) : StepAll f (.cont (f.rebuild tv k p l)) :=
  have h := rebuild_ok hf hw k hl (by have := hf.2.2.1; omega)
  ⟨⟨h.1, rfl⟩, h.2, Or.inl hp⟩

theorem recat_ok {f : FS} (hf : FInv f) {i : Nat} {a : Token} (hget : f.s.tv[i]? = some a) {c : UInt8}
    (hc : CatV c a.len) (hd : Derived f.s.tv { a with cat := c }) {l : Nat} (hl : l ≤ f.pos) :
    FInv (f.rebuild (f.s.tv.set i { a with cat := c }) f.s.folds f.pos l) ∧
      Evol f (f.rebuild (f.s.tv.set i { a with cat := c }) f.s.folds f.pos l) :=
  rebuild_ok hf (winOK_set hf i ((hf.1.2.2 a (List.mem_of_getElem? hget)).recat c hc) hd) _ hl hf.2.2.1

theorem rule_recat {f : FS} (hf : FInv f) {i : Nat} {a : Token} (hget : f.s.tv[i]? = some a) (hi : i < f.pos) {c : UInt8}
    (hc : CatV c a.len) (hd : Derived f.s.tv { a with cat := c }) {l : Nat} (hl : l ≤ f.pos)
    (hw : wcat c + 2 * (f.pos - l) < wcat a.cat + 2 * (f.pos - f.left)) :
    StepAll f (.cont (f.rebuild (f.s.tv.set i { a with cat := c }) f.s.folds f.pos l)) :=
  have h := recat_ok hf hget hc hd hl
  ⟨⟨h.1, rfl⟩, h.2, lt_set f _ i a _ hget hi rfl rfl hw⟩

theorem rule_recat_next {f : FS} (hf : FInv f) {i : Nat} {a : Token} (hget : f.s.tv[i]? = some a) (hi : i < f.pos) {c : UInt8}
    (hc : CatV c a.len) (hd : Derived f.s.tv { a with cat := c }) {l : Nat} (hl : l ≤ f.left)
    (hw : wcat c + 2 * (f.pos - l) ≤ wcat a.cat + 2 * (f.pos - f.left)) :
    TwoOK f (.next (f.rebuild (f.s.tv.set i { a with cat := c }) f.s.folds f.pos l)) ∧
      TwoRel f (.next (f.rebuild (f.s.tv.set i { a with cat := c }) f.s.folds f.pos l)) :=
  have h := recat_ok hf hget hc hd (Nat.le_trans hl hf.2.1)
  ⟨⟨h.1, rfl, rfl, hl, rfl, rfl⟩, h.2, le_set f _ i a _ hget hi rfl rfl hw⟩

theorem w102 : wcat 102 = 20 := by decide
theorem w92 : wcat 92 = 20 := by decide
theorem w110 : wcat 110 = 21 := by decide
theorem w118 : wcat 118 = 21 := by decide
theorem w111 : wcat 111 = 21 := by decide
theorem w107 : wcat 107 = 22 := by decide
theorem w84 : wcat 84 = 0 := by decide
theorem w116 : wcat 116 = 0 := by decide
theorem w88 : wcat 88 = 0 := by decide
theorem w49 : wcat 49 = 0 := by decide


theorem catV_lit (c : UInt8) (len : Nat) (h : CatLit c) : CatV c len := catLit_ok h

theorem catV_func {len : Nat} (h : 2 ≤ len) : CatV 102 len :=
  ⟨Or.inr (by decide), fun _ => h, fun h' => absurd h' (by decide)⟩

theorem len_of_upper_eq (v lit : Bytes) (h : toUpperCmp lit v = true) : lit.length ≤ v.length := by
  unfold toUpperCmp at h
  have : lit = goUpper v := by simpa using h
  rw [this]
  exact goUpper_length_le _ v (Nat.le_refl _)

theorem funcNames_len (v : Bytes) (h : funcNames.any (fun n => toUpperCmp n v) = true) : 2 ≤ v.length := by
  simp only [List.any_eq_true] at h
  obtain ⟨n, hn, hcmp⟩ := h
  have hl := len_of_upper_eq v n hcmp
  have : 4 ≤ n.length := by
    simp only [funcNames, List.mem_cons, List.mem_nil_iff, or_false] at hn
    rcases hn with rfl | rfl | rfl | rfl | rfl | rfl | rfl | rfl | rfl | rfl | rfl <;> decide +kernel
  omega

theorem like_len (v : Bytes) (h : (toUpperCmp (bs "LIKE") v || toUpperCmp (bs "NOT LIKE") v) = true) : 2 ≤ v.length := by
  rcases Bool.or_eq_true _ _ ▸ h with h | h
  · have := len_of_upper_eq v _ h
    have e : (bs "LIKE").length = 4 := by decide +kernel
    omega
  · have := len_of_upper_eq v _ h
    have e : (bs "NOT LIKE").length = 8 := by decide +kernel
    omega

theorem isIfToken_ok (a b : Token) (hb : TokF b) : ∃ v, isIfToken a b = .ok v := by
  unfold isIfToken
  by_cases cIF : (a.cat == 59 && b.cat == 102) = true
  · have hb102 : b.cat = 102 := by simp only [Bool.and_eq_true, beq_iff_eq] at cIF; exact cIF.2
    have hl2 : 2 ≤ b.val.length := by rw [hb.1.1]; exact hb.2.2.1 hb102
    simp only [cIF, ↓reduceIte, at'_ok (show 0 < b.val.length by omega), at'_ok (show 1 < b.val.length by omega),
      bind, Except.bind, pure, Except.pure]
    split <;> exact ⟨_, rfl⟩
  · simp only [cIF, Bool.false_eq_true, ↓reduceIte, pure, Except.pure]
    exact ⟨_, rfl⟩

theorem isIfToken_true (a b : Token) (h : isIfToken a b = .ok true) : b.cat = 102 := by
  unfold isIfToken at h
  by_cases c : (a.cat == 59 && b.cat == 102) = true
  · simp only [Bool.and_eq_true, beq_iff_eq] at c; exact c.2
  · simp only [c, Bool.false_eq_true, ↓reduceIte, pure, Except.pure, Except.ok.injEq] at h

theorem ok_ite {α : Type} {P : α → Prop} {c : Prop} [Decidable c] {x y : M α}
    (h1 : c → ∃ r, x = .ok r ∧ P r) (h2 : ¬ c → ∃ r, y = .ok r ∧ P r) : ∃ r, (if c then x else y) = .ok r ∧ P r := by
  by_cases h : c
  · rw [if_pos h]; exact h1 h
  · rw [if_neg h]; exact h2 h

/-! ## the two stages -/

theorem foldTwo_ok (f : FS) (hf : FInv f) (h2 : f.left + 2 ≤ f.pos) :
    ∃ r, foldTwo f = .ok r ∧ TwoOK f r ∧ TwoRel f r := by
  obtain ⟨hs, hlp, hp6, hlc⟩ := id hf
  obtain ⟨a, ha, hta⟩ := tvGet_ok f.s hs f.left (by omega)
  obtain ⟨b, hb, htb⟩ := tvGet_ok f.s hs (f.left + 1) (by omega)
  have ga := tvGet_some ha
  have gb := tvGet_some hb
  obtain ⟨bu, hbu⟩ := isUnaryOp_ok b htb
  obtain ⟨mr, hmr, hmok⟩ := merge_ok a b hta htb
  obtain ⟨ba, hba⟩ := isArithmeticOp_ok b htb
  obtain ⟨isIF, hIF⟩ := isIfToken_ok a b htb
  have hva := valOf_ok a hta
  have hal : a.val.length = a.len := hta.1.1
  have p1 : 1 ≤ f.pos := by omega
  have p2 : 2 ≤ f.pos := by omega
  have s0 := tvSet_sinv hs (show f.left < 8 by omega)
  have s1 := tvSet_sinv hs (show f.left + 1 < 8 by omega)
  have same := winOK_same hf
  -- outcomes that several rules share
  have drop1 : ∀ l, l ≤ f.pos - 1 → StepAll f (.cont (f.rebuild f.s.tv (f.s.folds + 1) (f.pos - 1) l)) :=
    fun l hl => rule_drop hf same _ hl (by omega)
  have dropB : StepAll f (.cont (f.rebuild (f.s.tv.set f.left b) (f.s.folds + 1) (f.pos - 1) 0)) :=
    rule_drop hf (winOK_set hf _ htb (derived_mem gb)) _ (Nat.zero_le _) (by omega)
  have predLeft : (if f.left > 0 then f.left - 1 else f.left) ≤ f.pos - 1 := by split <;> omega
  have next : TwoOK f (.next f) ∧ TwoRel f (.next f) :=
    ⟨⟨hf, rfl, rfl, Nat.le_refl _, rfl, rfl⟩, Evol.refl f, Or.inr ⟨rfl, Nat.le_refl _⟩⟩
  unfold foldTwo
  simp only [ha, hb, hbu, bind, Except.bind]
  simp only [hmr, hba, hva, hIF, s0, s1, FS.dec, FS.folds, sub, p1, p2, ↓reduceIte, bind, Except.bind, pure, Except.pure]
  refine ok_ite (fun _ => ⟨_, rfl, drop1 _ (by omega)⟩) fun _ => ?_
  refine ok_ite (fun _ => ⟨_, rfl, drop1 _ (by omega)⟩) fun _ => ?_
  refine ok_ite (fun _ => ⟨_, rfl, drop1 0 (by omega)⟩) fun _ => ?_
  refine ok_ite (fun _ => ⟨_, rfl, drop1 _ predLeft⟩) fun _ => ?_
  cases mr with
  | some a' =>
    obtain ⟨hta', hcat'⟩ := hmok a' rfl
    exact ⟨_, rfl, rule_drop hf (winOK_set hf _ hta' (derived_new hcat')) _ predLeft (by omega)⟩
  | none =>
  simp only []
  -- `; IF`: the function becomes a SQL type
  refine ok_ite (fun c => ?_) fun _ => ?_
  · have hb102 : b.cat = 102 := isIfToken_true a b (c ▸ hIF)
    exact ⟨_, rfl, rule_recat hf gb (by omega) (catLit_ok (by decide)) (derived_recat _ (by decide)) hlp
      (by rw [hb102, w84, w102]; omega)⟩
  -- a bareword or variable with a function's name, followed by `(`
  refine ok_ite (fun c => ?_) fun _ => ?_
  · simp only [Bool.and_eq_true, Bool.or_eq_true, beq_iff_eq] at c
    have hwa : wcat a.cat = 21 := by rcases c.1.1 with h | h <;> rw [h] <;> decide
    exact ⟨_, rfl, rule_recat hf ga (by omega) (catV_func (hal ▸ funcNames_len a.val c.2)) (derived_recat _ (by decide)) hlp
      (by rw [hwa, w102]; omega)⟩
  -- `IN`, `NOT IN`
  refine ok_ite (fun c => ?_) fun _ => ?_
  · simp only [Bool.and_eq_true, beq_iff_eq] at c
    exact ⟨_, rfl, rule_recat hf ga (by omega) (by split <;> exact catLit_ok (by decide))
      (derived_recat _ (by split <;> decide)) hlp (by rw [c.1, w107]; split <;> simp only [w111, w110] <;> omega)⟩
  -- `LIKE (`, `NOT LIKE (`
  refine ok_ite (fun c => ?_) fun _ => ?_
  · simp only [Bool.and_eq_true, beq_iff_eq] at c
    refine ok_ite (fun _ => ?_) fun _ => ⟨_, rfl, next⟩
    exact ⟨_, rfl, rule_recat_next hf ga (by omega) (catV_func (hal ▸ like_len a.val c.2)) (derived_recat _ (by decide))
      (Nat.le_refl _) (by rw [c.1, w111, w102]; omega)⟩
  refine ok_ite (fun _ => ⟨_, rfl, dropB⟩) fun _ => ?_
  -- `COLLATE` and a bareword with an underscore
  refine ok_ite (fun c => ?_) fun _ => ?_
  · simp only [Bool.and_eq_true, beq_iff_eq] at c
    refine ok_ite (fun _ => ?_) fun _ => ⟨_, rfl, next⟩
    exact ⟨_, rfl, rule_recat_next hf gb (by omega) (catLit_ok (by decide)) (derived_recat _ (by decide))
      (Nat.zero_le _) (by rw [c.2, w110, w116]; omega)⟩
  -- a backslash before an arithmetic operator is a number
  refine ok_ite (fun c => ?_) fun _ => ?_
  · have ha92 : a.cat = 92 := by simpa using c
    refine ok_ite (fun _ => ?_) fun _ => ⟨_, rfl, dropB⟩
    exact ⟨_, rfl, rule_recat hf ga (by omega) (catLit_ok (by decide)) (derived_num ga (Or.inr ha92)) (Nat.zero_le _)
      (by rw [ha92, w92, w49]; omega)⟩
  refine ok_ite (fun _ => ⟨_, rfl, drop1 0 (by omega)⟩) fun _ => ?_
  refine ok_ite (fun _ => ⟨_, rfl, drop1 0 (by omega)⟩) fun _ => ?_
  -- `{` and a bareword: an empty bareword is evil
  refine ok_ite (fun _ => ?_) fun _ => ?_
  · refine ok_ite (fun _ => ?_) fun _ => ⟨_, rfl, rule_drop hf same _ (Nat.zero_le _) (by omega)⟩
    have h := recat_ok hf gb (c := 88) (catLit_ok (by decide)) (derived_recat _ (by decide)) hlp
    exact ⟨_, rfl, ⟨h.1, rfl, by omega⟩, h.2⟩
  refine ok_ite (fun _ => ⟨_, rfl, drop1 0 (by omega)⟩) fun _ => ?_
  exact ⟨_, rfl, next⟩

theorem foldThree_ok (f : FS) (hf : FInv f) (h3 : f.left + 3 ≤ f.pos) :
    ∃ st, foldThree f = .ok st ∧ StepOK f.s.input st ∧ StepRel f st := by
  obtain ⟨hs, hlp, hp6, hlc⟩ := id hf
  obtain ⟨a, ha, hta⟩ := tvGet_ok f.s hs f.left (by omega)
  obtain ⟨b, hb, htb⟩ := tvGet_ok f.s hs (f.left + 1) (by omega)
  obtain ⟨c, hc, htc⟩ := tvGet_ok f.s hs (f.left + 2) (by omega)
  have ga := tvGet_some ha
  have gc := tvGet_some hc
  obtain ⟨bu, hbu⟩ := isUnaryOp_ok b htb
  have hva := valOf_ok a hta
  have hvb := valOf_ok b htb
  have p1 : 1 ≤ f.pos := by omega
  have p2 : 2 ≤ f.pos := by omega
  have p3 : 3 ≤ f.pos := by omega
  have s0 := tvSet_sinv hs (show f.left < 8 by omega)
  have s1 := tvSet_sinv hs (show f.left + 1 < 8 by omega)
  have same := winOK_same hf
  -- outcomes that several rules share: drop two tokens; store `c` in the middle slot and drop `k`
  have drop2 : ∀ k, StepAll f (.cont (f.rebuild f.s.tv k (f.pos - 2) 0)) :=
    fun k => rule_drop hf same k (Nat.zero_le _) (by omega)
  have dropC : ∀ k, 1 ≤ k → StepAll f (.cont (f.rebuild (f.s.tv.set (f.left + 1) c) f.s.folds (f.pos - k) 0)) :=
    fun k hk => rule_drop hf (winOK_set hf _ htc (derived_mem gc)) _ (Nat.zero_le _) (by omega)
  have skip : StepAll f (.cont (f.rebuild f.s.tv f.s.folds f.pos (f.left + 1))) :=
    have h := rebuild_ok hf same f.s.folds (show f.left + 1 ≤ f.pos by omega) hp6
    ⟨⟨h.1, rfl⟩, h.2, lt_left f _ rfl rfl (by show f.pos - (f.left + 1) < f.pos - f.left; omega)⟩
  unfold foldThree
  simp only [ha, hb, hc, hbu, bind, Except.bind]
  simp only [hva, hvb, s0, s1, FS.dec, FS.folds, sub, p1, p2, p3, ↓reduceIte, bind, Except.bind, pure, Except.pure]
  refine ok_ite (fun _ => ⟨_, rfl, drop2 _⟩) fun _ => ?_
  refine ok_ite (fun _ => ⟨_, rfl, drop2 _⟩) fun _ => ?_
  refine ok_ite (fun _ => ⟨_, rfl, drop2 _⟩) fun _ => ?_
  refine ok_ite (fun _ => ⟨_, rfl, drop2 _⟩) fun _ => ?_
  refine ok_ite (fun _ => ⟨_, rfl, drop2 _⟩) fun _ => ?_
  refine ok_ite (fun _ => ⟨_, rfl, drop2 _⟩) fun _ => ?_
  refine ok_ite (fun _ => ⟨_, rfl, drop2 _⟩) fun _ => ?_
  refine ok_ite (fun _ => ⟨_, rfl, dropC 1 (Nat.le_refl _)⟩) fun _ => ?_
  refine ok_ite (fun _ => ⟨_, rfl, dropC 1 (Nat.le_refl _)⟩) fun _ => ?_
  refine ok_ite (fun _ => ⟨_, rfl, dropC 3 (by omega)⟩) fun _ => ?_
  refine ok_ite (fun _ => ⟨_, rfl, dropC 1 (Nat.le_refl _)⟩) fun _ => ?_
  refine ok_ite (fun _ => ⟨_, rfl, drop2 _⟩) fun _ => ?_
  refine ok_ite (fun _ => ⟨_, rfl, dropC 1 (Nat.le_refl _)⟩) fun _ => ?_
  -- no rule fired: `left` moves on; the function `USER` before `(` becomes a bareword first
  by_cases c14 : (a.cat == 102 && b.cat == 40 && c.cat != 41) = true
  · rw [if_pos c14]
    simp only [Bool.and_eq_true, beq_iff_eq] at c14
    by_cases cu : toUpperCmp (bs "USER") a.val = true
    · rw [if_pos cu]
      exact ⟨_, rfl, rule_recat (l := f.left + 1) hf ga (by omega) (catLit_ok (by decide)) (derived_recat _ (by decide))
        (by omega) (by rw [c14.1.1, w102, w110]; omega)⟩
    · rw [if_neg cu]; exact ⟨_, rfl, skip⟩
  · rw [if_neg c14]; exact ⟨_, rfl, skip⟩

end LibInj.Sqli
