import LibInj.Proofs.H5Good
import LibInj.Proofs.H5Shift
/-! C17: emitted tokens are in non-decreasing, non-overlapping order and there are at most `|s|+1` of them.

Each state has a lower bound `lbN` for the start of the next token (`pos`, or `pos-1` for the two states
that re-emit the byte before `pos`) and a potential `potN = |s| - lbN + credit`; every emitting step puts
its token between the old and the new lower bound and lowers the potential by at least one. -/
namespace LibInj.H5
open LibInj

/-- how far before `pos` the next token may start: the tag-open and self-closing states re-emit the byte before `pos` -/
def delta : St → Nat
  | .tagOpen => 1 | .selfClosing => 1 | _ => 0

/-- an attribute name followed by `=` consumed two bytes for one token: one credit for a possibly empty value -/
def cred : St → Nat
  | .eof => 0 | .beforeAttrValue => 2 | _ => 1

/-- lower bound for the start of the next token; `n` stands for the input length (a variable of its own, so that the
bound can be compared across states over the same input) -/
def lbN (n : Nat) (h : H) : Nat := if h.state = .eof then n else h.pos - delta h.state
/-- the potential: bytes of an input of length `n` from the lower bound on, plus the credit of the state -/
def potN (n : Nat) (h : H) : Nat := n - lbN n h + cred h.state

/-- a step that emits does so at or after `base`, ends before the next state's lower bound, and leaves a
potential strictly below the budget `|s| - base + c` -/
def Ord (base c : Nat) (h : H) (r : M (Bool × H)) : Prop :=
  ∀ h', r = .ok (true, h') →
    base ≤ h'.tokStart ∧ h'.tokStart + h'.tokLen ≤ lbN h.s.length h' ∧ potN h.s.length h' + 1 ≤ h.s.length - base + c

theorem Ord.mono {base c base' c' : Nat} {h0 h : H} {r : M (Bool × H)} (hs : h.s = h0.s) (hb : base' ≤ base)
    (hbud : h.s.length - base + c ≤ h.s.length - base' + c') (g : Ord base c h r) : Ord base' c' h0 r := by
  intro h' hr
  obtain ⟨a1, a2, a3⟩ := g h' hr
  rw [hs] at a2 a3 hbud
  exact ⟨by omega, a2, by omega⟩

theorem Ord.ok_false (base c : Nat) (h x : H) : Ord base c h (Except.ok (false, x)) := by
  intro h' hr
  simp only [Except.ok.injEq, Prod.mk.injEq] at hr
  exact absurd hr.1 (by decide)

theorem Ord.error (base c : Nat) (h : H) (e : Err) : Ord base c h (.error e) :=
  fun _ hr => nomatch hr

theorem Ord.ok_true (base c : Nat) (h x : H)
    (hx : base ≤ x.tokStart ∧ x.tokStart + x.tokLen ≤ lbN h.s.length x ∧ potN h.s.length x + 1 ≤ h.s.length - base + c) :
    Ord base c h (Except.ok (true, x)) := by
  intro h' hr
  simp only [Except.ok.injEq, Prod.mk.injEq, true_and] at hr
  rw [← hr]; exact hx

/-- a token that ends where the next state's lower bound is; `d`, `cr` are `delta` and `cred` of that state -/
theorem Ord.emit {h h1 : H} {base c a l p : Nat} {ty : Ty} {st : St} (d cr : Nat)
    (ha : base ≤ a ∧ a + l + d ≤ p ∧ p ≤ h.s.length ∧ base + cr + d + 1 ≤ p + c)
    (hst : st ≠ .eof ∧ delta st = d ∧ cred st = cr := by decide) :
    Ord base c h (.ok (true, H5.emit h1 a l ty p st)) := by
  refine Ord.ok_true _ _ _ _ ⟨ha.1, ?_, ?_⟩
  all_goals
    simp only [potN, lbN, H5.emit, if_neg hst.1, hst.2.1, hst.2.2]
    omega

/-- the rest of the input as one token: nothing follows, so any budget will do -/
theorem Ord.ranOut (h : H) (ty : Ty) {base c : Nat} (hb : base ≤ h.pos) (hp : h.pos ≤ h.s.length) (hc : 1 ≤ c) :
    Ord base c h (H5.ranOut h ty) := by
  refine Ord.ok_true _ _ _ _ ⟨hb, ?_, ?_⟩
  all_goals
    simp only [potN, lbN, cred, if_true]
    omega

theorem Ord.ranOutEnd (h : H) (ty : Ty) {base c : Nat} (hb : base ≤ h.pos) (hp : h.pos ≤ h.s.length) (hc : 1 ≤ c) :
    Ord base c h (H5.ranOutEnd h ty) := by
  refine Ord.ok_true _ _ _ _ ⟨hb, ?_, ?_⟩
  all_goals
    simp only [potN, lbN, cred, H5.emit, if_true]
    omega

theorem Ord.any_flag {base c : Nat} {h x : H} (b : Bool) (g : Ord base c h (.ok (true, x))) : Ord base c h (.ok (b, x)) := by
  intro h' hr
  cases hr
  exact g _ rfl

theorem Searched.ord {h : H} {ty : Ty} {r : M (Bool × H)} (hp : h.pos ≤ h.s.length) (g : Searched h ty r) :
    Ord h.pos 1 h r := by
  rcases g with rfl | rfl | ⟨i, w, h1, h2, h3, rfl⟩
  · exact Ord.ranOut h ty (Nat.le_refl _) hp (Nat.le_refl _)
  · exact Ord.ranOutEnd h ty (Nat.le_refl _) hp (Nat.le_refl _)
  · exact Ord.emit 0 1 (by omega)

theorem stateBogusComment_ord (h : H) (hp : h.pos ≤ h.s.length) : Ord h.pos 1 h (stateBogusComment h) :=
  (gt_searched h hp).1.ord hp

theorem stateDoctype_ord (h : H) (hp : h.pos ≤ h.s.length) : Ord h.pos 1 h (stateDoctype h) :=
  (gt_searched h hp).2.ord hp

theorem stateTagNameClose_ord (h : H) (hp : h.pos < h.s.length) : Ord h.pos 1 h (stateTagNameClose h) := by
  unfold stateTagNameClose
  simp only [offFrom_ok (Nat.le_of_lt hp), bind, Except.bind, pure, Except.pure]
  refine Ord.ok_true _ _ _ _ ?_
  by_cases hlt : h.pos + 1 < h.s.length
  · simp [lbN, potN, delta, cred, hlt]; omega
  · simp [lbN, potN, cred, hlt]; omega

theorem stateBogusComment2_ord (h : H) (hp : h.pos ≤ h.s.length) : Ord h.pos 1 h (stateBogusComment2 h) :=
  (bogus2Loop_searched h hp _ _ (Nat.le_refl _) hp (Nat.lt_succ_of_le (Nat.sub_le _ _))).ord hp

theorem stateCData_ord (h : H) (hp : h.pos ≤ h.s.length) : Ord h.pos 1 h (stateCData h) :=
  (cdataLoop_searched h hp _ _ (Nat.le_refl _) hp (Nat.lt_succ_of_le (Nat.sub_le _ _))).ord hp

theorem stateComment_ord (h : H) (hp : h.pos ≤ h.s.length) : Ord h.pos 1 h (stateComment h) :=
  (commentLoop_searched h hp _ _ (Nat.le_refl _) hp (Nat.lt_succ_of_le (Nat.sub_le _ _))).ord hp

theorem stateMarkupDeclarationOpen_ord (h : H) (hp : h.pos ≤ h.s.length) :
    Ord h.pos 1 h (stateMarkupDeclarationOpen h) :=
  stateMarkupDeclarationOpen_cases (P := Ord h.pos 1 h) h (stateDoctype_ord h hp)
    (fun h7 => Ord.mono (h := { h with pos := h.pos + 7 }) rfl (Nat.le_add_right _ _) (by simp; omega) (stateCData_ord _ h7))
    (fun h2 => Ord.mono (h := { h with pos := h.pos + 2 }) rfl (Nat.le_add_right _ _) (by simp; omega) (stateComment_ord _ h2))
    (stateBogusComment_ord h hp)

/-- a tag name may be empty here (the caller has consumed the `<`): budget 2 -/
theorem stateTagName_ord (h : H) (hp : h.pos < h.s.length) : Ord h.pos 2 h (stateTagName h) :=
  stateTagName_cases (P := Ord h.pos 2 h) h (Nat.le_of_lt hp)
    (Ord.ranOut h _ (Nat.le_refl _) (Nat.le_of_lt hp) (by decide))
    (fun p h1 h2 => Ord.emit 0 1 (by omega))
    (fun p h1 h2 => Ord.emit 1 1 (by omega))
    (fun p h1 h2 => Ord.emit 0 1 (by omega))
    (fun p h1 h2 => Ord.emit 0 1 (by omega))

theorem stateAttributeName_ord (h : H) (hp : h.pos < h.s.length) : Ord h.pos 1 h (stateAttributeName h) :=
  stateAttributeName_cases (P := Ord h.pos 1 h) h (Nat.le_of_lt hp)
    (Ord.ranOutEnd h _ (Nat.le_refl _) (Nat.le_of_lt hp) (Nat.le_refl _))
    (fun p h1 h2 => Ord.emit 0 1 (by omega))
    (fun p h1 h2 => Ord.emit 1 1 (by omega))
    (fun p h1 h2 => have := getElem?_some_lt h2; Ord.emit 0 2 (by omega))
    (fun p h1 h2 => Ord.emit 0 1 (by omega))

theorem stateAttributeValueNoQuote_ord (h : H) (hp : h.pos ≤ h.s.length) : Ord h.pos 2 h (stateAttributeValueNoQuote h) :=
  stateAttributeValueNoQuote_cases (P := Ord h.pos 2 h) h hp (Ord.ranOut h _ (Nat.le_refl _) hp (by decide))
    (fun p h1 h2 => Ord.emit 0 1 (by omega))
    (fun p h1 h2 => Ord.emit 0 1 (by omega))

theorem stateAttributeValueQuote_ord (q : UInt8) (h : H) (hp : h.pos < h.s.length ∨ h.pos = 0) :
    Ord h.pos 1 h (stateAttributeValueQuote q h) :=
  stateAttributeValueQuote_cases (P := Ord h.pos 1 h) q h hp
    (fun p h1 _ h2 => Ord.mono (h := { h with pos := p }) rfl h1 (by simp; omega) (Ord.ranOut _ _ (Nat.le_refl _) h2 (Nat.le_refl _)))
    (fun p i h1 _ h2 => Ord.emit 0 1 (by omega))

theorem stateBeforeAttributeValue_ord (h : H) (hp : h.pos ≤ h.s.length) : Ord h.pos 2 h (stateBeforeAttributeValue h) :=
  stateBeforeAttributeValue_cases (P := Ord h.pos 2 h) h hp (fun _ _ _ => Ord.ok_false _ _ _ _)
    (fun q p h1 h2 => Ord.mono (h := { h with pos := p }) rfl h1 (by simp; omega) (stateAttributeValueQuote_ord q _ (Or.inl h2)))
    (fun p h1 h2 => Ord.mono (h := { h with pos := p }) rfl h1 (by simp; omega) (stateAttributeValueNoQuote_ord _ (Nat.le_of_lt h2)))

theorem sc_ban_ord : ∀ (d : Nat),
    (∀ h : H, h.pos ≤ h.s.length → 1 ≤ h.pos → Ord (h.pos - 1) 1 h (stateSelfClosingStartTag d h)) ∧
    (∀ h : H, h.pos ≤ h.s.length → Ord h.pos 1 h (stateBeforeAttributeName d h))
  | 0 => ⟨fun _ _ _ => Ord.error _ _ _ _, fun _ _ => Ord.error _ _ _ _⟩
  | d + 1 => by
    obtain ⟨ihS, ihB⟩ := sc_ban_ord d
    refine ⟨fun h hp h1 => ?_, fun h hp => ?_⟩
    · exact stateSelfClosingStartTag_cases (P := Ord (h.pos - 1) 1 h) d h h1 (fun _ => Ord.ok_false _ _ _ _)
        (fun hlt _ => Ord.emit 0 1 (by omega))
        (fun _ _ => Ord.mono rfl (Nat.sub_le _ _) (by omega) (ihB h hp))
    · refine stateBeforeAttributeName_cases (P := Ord h.pos 1 h) d h hp (fun h1 e hlt hle _ => ?_)
        (fun _ _ _ _ => Ord.ok_false _ _ _ _) (fun h1 e h1p hlt => ?_) (fun h1 e h1p hlt => ?_)
      · exact Ord.mono e (by omega) (by omega) (ihS h1 (e ▸ hle) (by omega))
      · exact Ord.emit 0 1 (by omega)
      · exact Ord.mono e h1p (by omega) (stateAttributeName_ord h1 (e ▸ hlt))

theorem stateAfterAttributeName_ord (h : H) (hp : h.pos ≤ h.s.length) : Ord h.pos 1 h (stateAfterAttributeName h) :=
  stateAfterAttributeName_cases (P := Ord h.pos 1 h) h hp (fun _ _ _ => Ord.ok_false _ _ _ _)
    (fun p h1 h2 => Ord.mono (h := { h with pos := p + 1 }) rfl (by simp; omega) (by simp; omega)
      ((sc_ban_ord callDepth).1 _ h2 (Nat.succ_pos _)))
    (fun p h1 h2 _ => Ord.mono (h := { h with pos := p + 1 }) rfl (by simp; omega) (by simp; omega)
      (stateBeforeAttributeValue_ord _ h2))
    (fun p h1 h2 => Ord.mono (h := { h with pos := p }) rfl h1 (by simp; omega) (stateTagNameClose_ord _ h2))
    (fun p h1 h2 => Ord.mono (h := { h with pos := p }) rfl h1 (by simp; omega) (stateAttributeName_ord _ h2))

theorem stateAfterAttributeValueQuotedState_ord (h : H) (hp : h.pos ≤ h.s.length) :
    Ord h.pos 1 h (stateAfterAttributeValueQuotedState h) :=
  stateAfterAttributeValueQuotedState_cases (P := Ord h.pos 1 h) h (fun _ => Ord.ok_false _ _ _ _)
    (fun hlt => Ord.mono (h := { h with pos := h.pos + 1 }) rfl (Nat.le_succ _) (by simp; omega)
      ((sc_ban_ord callDepth).2 _ hlt))
    (fun hlt => Ord.mono (h := { h with pos := h.pos + 1 }) rfl (by simp) (by simp)
      ((sc_ban_ord callDepth).1 _ hlt (Nat.succ_pos _)))
    (fun hlt => Ord.emit 0 1 (by omega))
    (fun _ => (sc_ban_ord callDepth).2 h hp)

theorem data_trio_ord : ∀ (d : Nat),
    (∀ h : H, h.pos ≤ h.s.length → Ord h.pos 2 h (stateEndTagOpen d h)) ∧
    (∀ h : H, h.pos ≤ h.s.length → 1 ≤ h.pos → Ord (h.pos - 1) 1 h (stateTagOpen d h)) ∧
    (∀ h : H, h.pos ≤ h.s.length → Ord h.pos 1 h (stateData d h))
  | 0 => ⟨fun _ _ => Ord.error _ _ _ _, fun _ _ _ => Ord.error _ _ _ _, fun _ _ => Ord.error _ _ _ _⟩
  | d + 1 => by
    obtain ⟨ihE, ihT, ihD⟩ := data_trio_ord d
    refine ⟨fun h hp => ?_, fun h hp h1 => ?_, fun h hp => ?_⟩
    · exact stateEndTagOpen_cases (P := Ord h.pos 2 h) d h (fun _ => Ord.ok_false _ _ _ _)
        (fun _ _ => Ord.mono rfl (Nat.le_refl _) (by omega) (ihD h hp)) (stateTagName_ord h)
        (fun _ => Ord.mono (h := { h with isClose := false }) rfl (Nat.le_refl _) (by simp) (stateBogusComment_ord _ hp))
    · -- whoever consumes the byte at `pos` starts its token there, one byte after this state's lower bound
      have adv {r : M (Bool × H)} {h1 : H} (hs : h1.s = h.s) (hpos : h1.pos = h.pos + 1) (hlt : h.pos < h.s.length)
          (g : Ord h1.pos 2 h1 r) : Ord (h.pos - 1) 1 h r :=
        Ord.mono hs (by omega) (by rw [hs]; omega) g
      exact stateTagOpen_cases (P := Ord (h.pos - 1) 1 h) d h (fun _ => Ord.ok_false _ _ _ _)
        (fun hlt => adv (h1 := { h with pos := h.pos + 1 }) rfl rfl hlt
          (Ord.mono rfl (Nat.le_refl _) (by omega) (stateMarkupDeclarationOpen_ord _ hlt)))
        (fun hlt => adv (h1 := { h with pos := h.pos + 1, isClose := true }) rfl rfl hlt (ihE _ hlt))
        (fun hlt => adv (h1 := { h with pos := h.pos + 1 }) rfl rfl hlt
          (Ord.mono rfl (Nat.le_refl _) (by omega) (stateBogusComment_ord _ hlt)))
        (fun hlt => adv (h1 := { h with pos := h.pos + 1 }) rfl rfl hlt
          (Ord.mono rfl (Nat.le_refl _) (by omega) (stateBogusComment2_ord _ hlt)))
        (fun hlt => Ord.mono rfl (Nat.sub_le _ _) (by omega) (stateTagName_ord h hlt))
        (fun h0 => absurd h0 (by omega))
        (fun _ hlt => Ord.emit 0 1 (by omega))
    · exact stateData_cases (P := Ord h.pos 1 h) d h hp (fun _ => (Searched.ord hp (Or.inl rfl)).any_flag _)
        (fun hlt => Ord.mono (h := emit h h.pos 0 .dataText (h.pos + 1) .tagOpen) rfl (by simp [emit])
          (by simp [emit]) (ihT _ (getElem?_some_lt hlt) (Nat.succ_pos _)))
        (fun i h0 hlt _ => Ord.emit 1 1 (by omega))

theorem next_ord (h : H) (hi : Inv h) (h2 : h.state = .tagOpen → 1 ≤ h.pos) :
    Ord (lbN h.s.length h) (cred h.state) h (next h) := by
  obtain ⟨hp, i1, i2, i3⟩ := hi
  unfold next
  cases hs : h.state with
  | eof => exact Ord.ok_false _ _ _ _
  | data => simpa [lbN, hs, delta, cred] using (data_trio_ord dataDepth).2.2 h hp
  | tagOpen => simpa [lbN, hs, delta, cred] using (data_trio_ord dataDepth).2.1 h hp (h2 hs)
  | beforeAttrName => simpa [lbN, hs, delta, cred] using (sc_ban_ord callDepth).2 h hp
  | selfClosing => simpa [lbN, hs, delta, cred] using (sc_ban_ord callDepth).1 h hp (i1 hs)
  | tagNameClose => simpa [lbN, hs, delta, cred] using stateTagNameClose_ord h (i2 hs)
  | afterAttrName => simpa [lbN, hs, delta, cred] using stateAfterAttributeName_ord h hp
  | beforeAttrValue => simpa [lbN, hs, delta, cred] using stateBeforeAttributeValue_ord h hp
  | afterAttrValueQuoted => simpa [lbN, hs, delta, cred] using stateAfterAttributeValueQuotedState_ord h hp
  | valSingle => simpa [lbN, hs, delta, cred] using stateAttributeValueQuote_ord 39 h (Or.inr (i3 (Or.inl hs)))
  | valDouble => simpa [lbN, hs, delta, cred] using stateAttributeValueQuote_ord 34 h (Or.inr (i3 (Or.inr (Or.inl hs))))
  | valBack => simpa [lbN, hs, delta, cred] using stateAttributeValueQuote_ord 96 h (Or.inr (i3 (Or.inr (Or.inr hs))))

/-- consecutive tokens do not overlap -/
def Chain : List Tok → Prop
  | [] => True
  | [_] => True
  | a :: b :: t => a.off + a.len ≤ b.off ∧ Chain (b :: t)

theorem tokensLoop_step (fuel : Nat) (h : H) (ts : List Tok) (hi : Inv h) (hr : tokensLoop h (fuel + 1) = .ok ts) :
    ts = [] ∨ ∃ h' rest, next h = .ok (true, h') ∧ tokensLoop h' fuel = .ok rest ∧
      ts = { ty := h'.tokType, off := h'.tokStart, len := h'.tokLen } :: rest ∧
      h'.s = h.s ∧ Inv h' ∧ (h'.state = .tagOpen → 1 ≤ h'.pos) ∧ h.pos ≤ h'.pos := by
  unfold tokensLoop at hr
  obtain ⟨b, h', hn, hs, hrest⟩ := next_spec h hi
  rw [hn] at hr
  simp only [bind, Except.bind, pure, Except.pure] at hr
  cases b with
  | false =>
    simp only [Bool.false_eq_true, ↓reduceIte, Except.ok.injEq] at hr
    exact Or.inl hr.symm
  | true =>
    simp only [↓reduceIte] at hr
    obtain ⟨_, hinv', _, hmono⟩ := hrest rfl
    cases hrec : tokensLoop h' fuel with
    | error e => rw [hrec] at hr; cases hr
    | ok rest =>
      rw [hrec] at hr
      simp only [Except.ok.injEq] at hr
      exact Or.inr ⟨h', rest, hn, hrec, hr.symm, hs, hinv', (next_shok h hi h' hn).2.1, hmono⟩

theorem tokensLoop_order : ∀ (fuel : Nat) (h : H) (ts : List Tok), Inv h → (h.state = .tagOpen → 1 ≤ h.pos) →
    tokensLoop h fuel = .ok ts →
    ts.length ≤ potN h.s.length h ∧ Chain ts ∧ ∀ t ∈ ts, lbN h.s.length h ≤ t.off
  | 0, _, _, _, _, hr => by cases hr
  | fuel + 1, h, ts, hi, h2, hr => by
    rcases tokensLoop_step fuel h ts hi hr with rfl | ⟨h', rest, hn, hrec, rfl, hs, hinv', h2', _⟩
    · exact ⟨Nat.zero_le _, trivial, fun t ht => by cases ht⟩
    · obtain ⟨r1, r2, r3⟩ := tokensLoop_order fuel h' rest hinv' h2' hrec
      rw [hs] at r1 r3
      obtain ⟨o1, o2, o3⟩ := next_ord h hi h2 h' hn
      have hpot : potN h.s.length h = h.s.length - lbN h.s.length h + cred h.state := rfl
      refine ⟨by simp only [List.length_cons]; omega, ?_, ?_⟩
      · cases rest with
        | nil => trivial
        | cons t1 rest' =>
          have := r3 t1 (by simp)
          exact ⟨by show h'.tokStart + h'.tokLen ≤ t1.off; omega, r2⟩
      · intro t ht
        rcases List.mem_cons.mp ht with rfl | ht
        · exact o1
        · have := r3 t ht
          omega

theorem chain_index : ∀ (ts : List Tok), Chain ts → ∀ i, ∀ hi : i + 1 < ts.length, ts[i].off + ts[i].len ≤ ts[i + 1].off
  | [], _, i, hi => by simp at hi
  | [_], _, i, hi => by simp at hi
  | a :: b :: t, hc, 0, _ => hc.1
  | a :: b :: t, hc, i + 1, hi => by
    have := chain_index (b :: t) hc.2 i (by simp at hi ⊢; omega)
    simpa using this

/-- **C17, order and count**: from every start context at most `|s|+1` tokens, in non-decreasing,
non-overlapping order -/
theorem tokens_order_count (s : Bytes) (ctx : Nat) (ts : List Tok) (h : tokens s ctx = .ok ts) :
    ts.length ≤ s.length + 1 ∧ ∀ i, ∀ hi : i + 1 < ts.length, ts[i].off + ts[i].len ≤ ts[i + 1].off := by
  unfold tokens at h
  have hst : (init s ctx).state ≠ .tagOpen ∧ (init s ctx).state ≠ .eof ∧ (init s ctx).state ≠ .selfClosing ∧
      (init s ctx).state ≠ .beforeAttrValue ∧ (init s ctx).pos = 0 := by
    unfold init
    refine ⟨?_, ?_, ?_, ?_, rfl⟩ <;> (simp only []; split <;> simp)
  obtain ⟨r1, r2, _⟩ := tokensLoop_order _ (init s ctx) ts (init_inv s ctx) (fun h => absurd h hst.1) h
  refine ⟨?_, chain_index ts r2⟩
  have hpot : potN s.length (init s ctx) = s.length + 1 := by
    have hlb : lbN s.length (init s ctx) = 0 := by
      unfold lbN
      rw [if_neg hst.2.1, hst.2.2.2.2]
      simp
    have hc : cred (init s ctx).state = 1 := by
      cases hs : (init s ctx).state <;> first | rfl | exact absurd hs hst.2.1 | exact absurd hs hst.2.2.2.1
    unfold potN
    rw [hlb, hc]
    omega
  have : (init s ctx).s = s := rfl
  rw [this, hpot] at r1
  exact r1

end LibInj.H5
