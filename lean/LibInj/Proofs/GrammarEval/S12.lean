import LibInj.Proofs.GrammarCheck
namespace LibInj.Sqli.GrammarEval
open LibInj LibInj.Sqli LibInj.Spec.SqliGrammar

theorem s48 : tailsOK prefixes (skel 48) = true ∧ sepsOK prefixes (skel 48) = true :=
  ⟨by decide +kernel, by decide +kernel⟩

theorem s49 : tailsOK prefixes (skel 49) = true ∧ sepsOK prefixes (skel 49) = true :=
  ⟨by decide +kernel, by decide +kernel⟩

theorem s50 : tailsOK prefixes (skel 50) = true ∧ sepsOK prefixes (skel 50) = true :=
  ⟨by decide +kernel, by decide +kernel⟩

end LibInj.Sqli.GrammarEval
