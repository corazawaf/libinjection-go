import LibInj.Proofs.GrammarCheck
namespace LibInj.Sqli.GrammarEval
open LibInj LibInj.Sqli LibInj.Spec.SqliGrammar

theorem s28 : tailsOK prefixes (skel 28) = true ∧ sepsOK prefixes (skel 28) = true :=
  ⟨by decide +kernel, by decide +kernel⟩

theorem s29 : tailsOK prefixes (skel 29) = true ∧ sepsOK prefixes (skel 29) = true :=
  ⟨by decide +kernel, by decide +kernel⟩

theorem s30 : tailsOK prefixes (skel 30) = true ∧ sepsOK prefixes (skel 30) = true :=
  ⟨by decide +kernel, by decide +kernel⟩

theorem s31 : tailsOK prefixes (skel 31) = true ∧ sepsOK prefixes (skel 31) = true :=
  ⟨by decide +kernel, by decide +kernel⟩

end LibInj.Sqli.GrammarEval
