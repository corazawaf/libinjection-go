import LibInj.Proofs.GrammarCheck
namespace LibInj.Sqli.GrammarEval
open LibInj LibInj.Sqli LibInj.Spec.SqliGrammar

theorem s12 : tailsOK prefixes (skel 12) = true ∧ sepsOK prefixes (skel 12) = true :=
  ⟨by decide +kernel, by decide +kernel⟩

theorem s13 : tailsOK prefixes (skel 13) = true ∧ sepsOK prefixes (skel 13) = true :=
  ⟨by decide +kernel, by decide +kernel⟩

theorem s14 : tailsOK prefixes (skel 14) = true ∧ sepsOK prefixes (skel 14) = true :=
  ⟨by decide +kernel, by decide +kernel⟩

theorem s15 : tailsOK prefixes (skel 15) = true ∧ sepsOK prefixes (skel 15) = true :=
  ⟨by decide +kernel, by decide +kernel⟩

end LibInj.Sqli.GrammarEval
