import LibInj.Proofs.GrammarCheck
namespace LibInj.Sqli.GrammarEval
open LibInj LibInj.Sqli LibInj.Spec.SqliGrammar

theorem s08 : tailsOK prefixes (skel 8) = true ∧ sepsOK prefixes (skel 8) = true :=
  ⟨by decide +kernel, by decide +kernel⟩

theorem s09 : tailsOK prefixes (skel 9) = true ∧ sepsOK prefixes (skel 9) = true :=
  ⟨by decide +kernel, by decide +kernel⟩

theorem s10 : tailsOK prefixes (skel 10) = true ∧ sepsOK prefixes (skel 10) = true :=
  ⟨by decide +kernel, by decide +kernel⟩

theorem s11 : tailsOK prefixes (skel 11) = true ∧ sepsOK prefixes (skel 11) = true :=
  ⟨by decide +kernel, by decide +kernel⟩

end LibInj.Sqli.GrammarEval
