import LibInj.Proofs.GrammarCheck
namespace LibInj.Sqli.GrammarEval
open LibInj LibInj.Sqli LibInj.Spec.SqliGrammar

theorem s00 : tailsOK prefixes (skel 0) = true ∧ sepsOK prefixes (skel 0) = true :=
  ⟨by decide +kernel, by decide +kernel⟩

theorem s01 : tailsOK prefixes (skel 1) = true ∧ sepsOK prefixes (skel 1) = true :=
  ⟨by decide +kernel, by decide +kernel⟩

theorem s02 : tailsOK prefixes (skel 2) = true ∧ sepsOK prefixes (skel 2) = true :=
  ⟨by decide +kernel, by decide +kernel⟩

theorem s03 : tailsOK prefixes (skel 3) = true ∧ sepsOK prefixes (skel 3) = true :=
  ⟨by decide +kernel, by decide +kernel⟩

end LibInj.Sqli.GrammarEval
