import LibInj.Proofs.GrammarCheck
namespace LibInj.Sqli.GrammarEval
open LibInj LibInj.Sqli LibInj.Spec.SqliGrammar

theorem s44 : tailsOK prefixes (skel 44) = true ∧ sepsOK prefixes (skel 44) = true :=
  ⟨by decide +kernel, by decide +kernel⟩

theorem s45 : tailsOK prefixes (skel 45) = true ∧ sepsOK prefixes (skel 45) = true :=
  ⟨by decide +kernel, by decide +kernel⟩

theorem s46 : tailsOK prefixes (skel 46) = true ∧ sepsOK prefixes (skel 46) = true :=
  ⟨by decide +kernel, by decide +kernel⟩

theorem s47 : tailsOK prefixes (skel 47) = true ∧ sepsOK prefixes (skel 47) = true :=
  ⟨by decide +kernel, by decide +kernel⟩

end LibInj.Sqli.GrammarEval
