import LibInj.Proofs.GrammarCheck
namespace LibInj.Sqli.GrammarEval
open LibInj LibInj.Sqli LibInj.Spec.SqliGrammar

theorem s16 : tailsOK prefixes (skel 16) = true ∧ sepsOK prefixes (skel 16) = true :=
  ⟨by decide +kernel, by decide +kernel⟩

theorem s17 : tailsOK prefixes (skel 17) = true ∧ sepsOK prefixes (skel 17) = true :=
  ⟨by decide +kernel, by decide +kernel⟩

theorem s18 : tailsOK prefixes (skel 18) = true ∧ sepsOK prefixes (skel 18) = true :=
  ⟨by decide +kernel, by decide +kernel⟩

theorem s19 : tailsOK prefixes (skel 19) = true ∧ sepsOK prefixes (skel 19) = true :=
  ⟨by decide +kernel, by decide +kernel⟩

end LibInj.Sqli.GrammarEval
