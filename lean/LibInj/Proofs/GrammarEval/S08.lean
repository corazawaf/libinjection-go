import LibInj.Proofs.GrammarCheck
namespace LibInj.Sqli.GrammarEval
open LibInj LibInj.Sqli LibInj.Spec.SqliGrammar

theorem s32 : tailsOK prefixes (skel 32) = true ∧ sepsOK prefixes (skel 32) = true :=
  ⟨by decide +kernel, by decide +kernel⟩

theorem s33 : tailsOK prefixes (skel 33) = true ∧ sepsOK prefixes (skel 33) = true :=
  ⟨by decide +kernel, by decide +kernel⟩

theorem s34 : tailsOK prefixes (skel 34) = true ∧ sepsOK prefixes (skel 34) = true :=
  ⟨by decide +kernel, by decide +kernel⟩

theorem s35 : tailsOK prefixes (skel 35) = true ∧ sepsOK prefixes (skel 35) = true :=
  ⟨by decide +kernel, by decide +kernel⟩

end LibInj.Sqli.GrammarEval
