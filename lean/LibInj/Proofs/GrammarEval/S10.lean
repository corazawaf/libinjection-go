import LibInj.Proofs.GrammarCheck
namespace LibInj.Sqli.GrammarEval
open LibInj LibInj.Sqli LibInj.Spec.SqliGrammar

theorem s40 : tailsOK prefixes (skel 40) = true ∧ sepsOK prefixes (skel 40) = true :=
  ⟨by decide +kernel, by decide +kernel⟩

theorem s41 : tailsOK prefixes (skel 41) = true ∧ sepsOK prefixes (skel 41) = true :=
  ⟨by decide +kernel, by decide +kernel⟩

theorem s42 : tailsOK prefixes (skel 42) = true ∧ sepsOK prefixes (skel 42) = true :=
  ⟨by decide +kernel, by decide +kernel⟩

theorem s43 : tailsOK prefixes (skel 43) = true ∧ sepsOK prefixes (skel 43) = true :=
  ⟨by decide +kernel, by decide +kernel⟩

end LibInj.Sqli.GrammarEval
