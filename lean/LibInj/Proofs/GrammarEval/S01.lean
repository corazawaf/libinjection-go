import LibInj.Proofs.GrammarCheck
namespace LibInj.Sqli.GrammarEval
open LibInj LibInj.Sqli LibInj.Spec.SqliGrammar

theorem s04 : tailsOK prefixes (skel 4) = true ∧ sepsOK prefixes (skel 4) = true :=
  ⟨by decide +kernel, by decide +kernel⟩

theorem s05 : tailsOK prefixes (skel 5) = true ∧ sepsOK prefixes (skel 5) = true :=
  ⟨by decide +kernel, by decide +kernel⟩

theorem s06 : tailsOK prefixes (skel 6) = true ∧ sepsOK prefixes (skel 6) = true :=
  ⟨by decide +kernel, by decide +kernel⟩

theorem s07 : tailsOK prefixes (skel 7) = true ∧ sepsOK prefixes (skel 7) = true :=
  ⟨by decide +kernel, by decide +kernel⟩

end LibInj.Sqli.GrammarEval
