import LibInj.Proofs.GrammarCheck
namespace LibInj.Sqli.GrammarEval
open LibInj LibInj.Sqli LibInj.Spec.SqliGrammar

theorem s20 : tailsOK prefixes (skel 20) = true ∧ sepsOK prefixes (skel 20) = true :=
  ⟨by decide +kernel, by decide +kernel⟩

theorem s21 : tailsOK prefixes (skel 21) = true ∧ sepsOK prefixes (skel 21) = true :=
  ⟨by decide +kernel, by decide +kernel⟩

theorem s22 : tailsOK prefixes (skel 22) = true ∧ sepsOK prefixes (skel 22) = true :=
  ⟨by decide +kernel, by decide +kernel⟩

theorem s23 : tailsOK prefixes (skel 23) = true ∧ sepsOK prefixes (skel 23) = true :=
  ⟨by decide +kernel, by decide +kernel⟩

end LibInj.Sqli.GrammarEval
