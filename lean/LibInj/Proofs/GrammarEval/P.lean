import LibInj.Proofs.GrammarCheck
namespace LibInj.Sqli.GrammarEval
open LibInj LibInj.Sqli LibInj.Spec.SqliGrammar

theorem p0 : tailsOK parenPrefixes (pskel 0) = true ∧ sepsOK parenPrefixes (pskel 0) = true :=
  ⟨by decide +kernel, by decide +kernel⟩

theorem p1 : tailsOK parenPrefixes (pskel 1) = true ∧ sepsOK parenPrefixes (pskel 1) = true :=
  ⟨by decide +kernel, by decide +kernel⟩

theorem p2 : tailsOK parenPrefixes (pskel 2) = true ∧ sepsOK parenPrefixes (pskel 2) = true :=
  ⟨by decide +kernel, by decide +kernel⟩

theorem p3 : tailsOK parenPrefixes (pskel 3) = true ∧ sepsOK parenPrefixes (pskel 3) = true :=
  ⟨by decide +kernel, by decide +kernel⟩

theorem p4 : tailsOK parenPrefixes (pskel 4) = true ∧ sepsOK parenPrefixes (pskel 4) = true :=
  ⟨by decide +kernel, by decide +kernel⟩

theorem truncations : Spec.SqliGrammar.truncations.all fires = true := by decide +kernel

end LibInj.Sqli.GrammarEval
