import LibInj.Proofs.GrammarCheck
namespace LibInj.Sqli.GrammarEval
open LibInj LibInj.Sqli LibInj.Spec.SqliGrammar

theorem s36 : tailsOK prefixes (skel 36) = true ∧ sepsOK prefixes (skel 36) = true :=
  ⟨by decide +kernel, by decide +kernel⟩

theorem s37 : tailsOK prefixes (skel 37) = true ∧ sepsOK prefixes (skel 37) = true :=
  ⟨by decide +kernel, by decide +kernel⟩

theorem s38 : tailsOK prefixes (skel 38) = true ∧ sepsOK prefixes (skel 38) = true :=
  ⟨by decide +kernel, by decide +kernel⟩

theorem s39 : tailsOK prefixes (skel 39) = true ∧ sepsOK prefixes (skel 39) = true :=
  ⟨by decide +kernel, by decide +kernel⟩

end LibInj.Sqli.GrammarEval
