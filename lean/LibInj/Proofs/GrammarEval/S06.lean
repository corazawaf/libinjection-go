import LibInj.Proofs.GrammarCheck
namespace LibInj.Sqli.GrammarEval
open LibInj LibInj.Sqli LibInj.Spec.SqliGrammar

theorem s24 : tailsOK prefixes (skel 24) = true ∧ sepsOK prefixes (skel 24) = true :=
  ⟨by decide +kernel, by decide +kernel⟩

theorem s25 : tailsOK prefixes (skel 25) = true ∧ sepsOK prefixes (skel 25) = true :=
  ⟨by decide +kernel, by decide +kernel⟩

theorem s26 : tailsOK prefixes (skel 26) = true ∧ sepsOK prefixes (skel 26) = true :=
  ⟨by decide +kernel, by decide +kernel⟩

theorem s27 : tailsOK prefixes (skel 27) = true ∧ sepsOK prefixes (skel 27) = true :=
  ⟨by decide +kernel, by decide +kernel⟩

end LibInj.Sqli.GrammarEval
