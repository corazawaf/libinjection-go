import LibInj.Proofs.LexOK
import LibInj.Sqli.Raw
/-! `tokenize` and the raw token stream: totality, progress, faithfulness (C01 lexing part, C16). -/
namespace LibInj.Sqli
open LibInj

/-- a token as stored by `tokenize`: well-formed, inside `[lo, hi)`, value = input bytes at its offset -/
def TokAt (input : Bytes) (lo hi : Nat) (t : Token) : Prop :=
  TokInv t ∧ lo ≤ t.pos ∧ t.pos + t.len ≤ hi ∧ t.val = (input.drop t.pos).take t.len ∧ CatOK t

theorem tvGet_of_some {s : State} {i : Nat} {t : Token} (h : s.tv[i]? = some t) : tvGet s i = .ok t := by
  unfold tvGet; rw [h]

theorem tvSet_ok (s : State) (i : Nat) (t : Token) (h : i < s.tv.length) :
    tvSet s i t = .ok { s with tv := s.tv.set i t } := by
  simp [tvSet, h]

/-- token counting, and the scan offset `p` at which the reported token was dispatched: a comment
dispatched on `/` or `-` has at least two bytes of input from there (`/*`, `--`) -/
def TokCount (s : State) (more : Bool) (s' : State) : Prop :=
  s.toks ≤ s'.toks ∧
  (more = true → s'.toks = s.toks + 1 ∧ ∃ p, s.pos ≤ p ∧ p < s.input.length ∧
    ∀ t, s'.tv[s.cur]? = some t → t.cat = 99 → (s.input[p]? = some 47 ∨ s.input[p]? = some 45) → p + 2 ≤ s.input.length) ∧
  (more = false → ∀ t, s'.tv[s.cur]? = some t → t.cat = 0 ∨ s.tv[s.cur]? = some t)

/-- result of a `tokenize` call from `s` that reports `more` and leaves `s'`. In order: input, flags, current slot and
the number of slots are unchanged; the scan offset does not go back and stays inside the input; the other slots are
unchanged; when a token is reported, the scan advanced and the current slot holds it, of a class other than 0, inside the
span scanned (`TokAt`); when none is reported the scan is at the end of the input (or there is no input); whatever the
current slot holds then is well-formed or is what it held before; token counting (`TokCount`). -/
def TokStep (s : State) (more : Bool) (s' : State) : Prop :=
  s'.input = s.input ∧ s'.flags = s.flags ∧ s'.cur = s.cur ∧ s'.tv.length = s.tv.length ∧
  s.pos ≤ s'.pos ∧ s'.pos ≤ s.input.length ∧
  (∀ j, j ≠ s.cur → s'.tv[j]? = s.tv[j]?) ∧
  (more = true → s.pos < s'.pos ∧ ∃ t, s'.tv[s.cur]? = some t ∧ t.cat ≠ 0 ∧ TokAt s.input s.pos s'.pos t) ∧
  (more = false → s'.pos = s.input.length ∨ s.input = []) ∧
  (∀ t, s'.tv[s.cur]? = some t → (TokInv t ∧ CatOK t) ∨ s.tv[s.cur]? = some t) ∧
  TokCount s more s'

theorem TokStep.emit {s s' : State} {t : Token} (hc : s.cur < s.tv.length)
    (hi : s'.input = s.input) (hf : s'.flags = s.flags) (hcur : s'.cur = s.cur) (htv : s'.tv = s.tv.set s.cur t)
    (htoks : s'.toks = s.toks + 1) (hpos : s.pos < s'.pos) (hle : s'.pos ≤ s.input.length) (hcat : t.cat ≠ 0)
    (hat : TokAt s.input s.pos s'.pos t)
    (hcom : t.cat = 99 → (s.input[s.pos]? = some 47 ∨ s.input[s.pos]? = some 45) → s.pos + 2 ≤ s.input.length) :
    TokStep s true s' := by
  have hget : ∀ t', s'.tv[s.cur]? = some t' → t' = t := fun t' h => by
    rw [htv, List.getElem?_set_self hc] at h; exact (Option.some.inj h).symm
  refine ⟨hi, hf, hcur, by rw [htv, List.length_set], Nat.le_of_lt hpos, hle, fun j hj => by rw [htv, List.getElem?_set_ne (Ne.symm hj)],
    fun _ => ⟨hpos, t, by rw [htv, List.getElem?_set_self hc], hcat, hat⟩, fun h => (by cases h),
    fun t' ht' => Or.inl (hget t' ht' ▸ ⟨hat.1, hat.2.2.2.2⟩),
    (by omega), fun _ => ⟨htoks, s.pos, Nat.le_refl _, (by omega), fun t' ht' => hget t' ht' ▸ hcom⟩, fun h => (by cases h)⟩

theorem TokStep.stay {s : State} (hp : s.pos ≤ s.input.length) (he : s.pos = s.input.length ∨ s.input = []) : TokStep s false s :=
  ⟨rfl, rfl, rfl, rfl, Nat.le_refl _, hp, fun _ _ => rfl, fun h => (by cases h), fun _ => he,
    fun t ht => Or.inr ht, Nat.le_refl _, fun h => (by cases h), fun _ t ht => Or.inr ht⟩

theorem TokStep.of_skip {s s1 s' : State} {more : Bool} {t0 : Token} (h : TokStep s1 more s') (hc : s.cur < s.tv.length)
    (hi : s1.input = s.input) (hf : s1.flags = s.flags) (hcur : s1.cur = s.cur) (htv : s1.tv = s.tv.set s.cur t0)
    (htoks : s1.toks = s.toks) (hpos : s.pos ≤ s1.pos) (ht0 : TokInv t0 ∧ CatOK t0) (hcat0 : t0.cat = 0) :
    TokStep s more s' := by
  obtain ⟨q1, q2, q3, q4, q5, q6, q7, q8, q9, q10, q11, q12, q13⟩ := h
  rw [hi] at q1 q6 q8 q9 q12
  rw [hcur] at q3 q7 q8 q10 q12 q13
  have hslot : ∀ t, s1.tv[s.cur]? = some t → t = t0 := fun t h => by
    rw [htv, List.getElem?_set_self hc] at h; exact (Option.some.inj h).symm
  refine ⟨q1, by rw [q2, hf], q3, (by rw [q4, htv, List.length_set]), (by omega), q6,
    fun j hj => by rw [q7 j hj, htv, List.getElem?_set_ne (Ne.symm hj)], fun hm => ?_, q9,
    fun t ht => Or.inl ?_, (by omega), fun hm => ?_, fun hm t ht => Or.inl ?_⟩
  · obtain ⟨w1, t, w2, w3, w4, w5, w6⟩ := q8 hm
    exact ⟨by omega, t, w2, w3, w4, by omega, w6⟩
  · rcases q10 t ht with h | h
    · exact h
    · exact hslot t h ▸ ht0
  · obtain ⟨e1, p, p1, p2, p3⟩ := q12 hm
    exact ⟨by omega, p, by omega, p2, p3⟩
  · rcases q13 hm t ht with h | h
    · exact h
    · exact hslot t h ▸ hcat0

theorem two_le_of_slash_comment (rest : Bytes) (r : Lex) (hne : rest ≠ []) (h : parseSlash rest = .ok r) (hc : r.tok.cat = 99) :
    2 ≤ rest.length := by
  by_cases h1 : rest[1]? = some 42
  · exact (List.getElem?_eq_some_iff.mp h1).1
  · rw [parseSlash_op rest hne h1, parseOperator1, assign_ok _ _ _ _ _ (by rw [clip_one]; exact length_pos_of_ne_nil hne)] at h
    cases h; cases hc

theorem two_le_of_dash_comment (flags : Nat) (rest : Bytes) (r : Lex) (h : parseDash flags rest = .ok r) (hc : r.tok.cat = 99) :
    2 ≤ rest.length := by
  rcases Nat.lt_or_ge rest.length 2 with hlt | hge
  · exfalso
    unfold parseDash at h
    have e1 : ¬ 2 < rest.length := by omega
    have e2 : ¬ 2 = rest.length := by omega
    have e3 : ¬ 1 < rest.length := by omega
    simp only [g_ok, ok_and, ok_bind, decide_eq_true_eq, beq_iff_eq, e1, e2, e3, ↓reduceIte, Bool.false_eq_true,
      assign_ok _ _ _ _ _ (show clip 1 ≤ [(45 : UInt8)].length by rw [clip_one]; simp)] at h
    cases h; cases hc
  · exact hge

theorem dispatch_47 : dispatch 47 = .slash := by decide +kernel
theorem dispatch_45 : dispatch 45 = .dash := by decide +kernel

theorem tokLoop_ok (fuel : Nat) : ∀ (s : State), s.pos ≤ s.input.length → s.cur < s.tv.length →
    s.input.length - s.pos < fuel → ∃ more s', tokLoop s fuel = .ok (more, s') ∧ TokStep s more s' := by
  induction fuel with
  | zero => intro s _ _ hf; omega
  | succ fuel ih =>
    intro s hp hc hf
    unfold tokLoop
    by_cases hlt : s.pos < s.input.length
    · have hrest0 : (s.input.drop s.pos)[0]? = some s.input[s.pos] := by
        simp [List.getElem?_drop, List.getElem?_eq_getElem hlt]
      obtain ⟨hrl, h0⟩ := List.getElem?_eq_some_iff.mp hrest0
      obtain ⟨r, hr, n1, n2, v, b1, f1, c1⟩ := runP_ok s.flags (s.input.drop s.pos) s.input[s.pos] hrest0
      rw [List.length_drop] at n2
      simp only [hlt, ↓reduceIte, sliceFrom_ok s.input s.pos hp, at'_ok hrl, h0, hr, ok_bind, tvSet_ok s s.cur _ hc]
      -- the token as stored (absolute offset)
      have hfaith : r.tok.val = (s.input.drop (r.tok.pos + s.pos)).take r.tok.len := by
        rw [f1, List.drop_drop, Nat.add_comm]
      split
      · rename_i hcat
        refine ⟨true, _, rfl, .emit hc rfl rfl rfl rfl rfl (by show s.pos < s.pos + r.next; omega) (by show s.pos + r.next ≤ s.input.length; omega)
          (by simpa using hcat) ⟨v, Nat.le_add_left _ _, by show r.tok.pos + s.pos + r.tok.len ≤ s.pos + r.next; omega, hfaith, c1⟩ ?_⟩
        -- a comment dispatched on `/` or `-` needs two bytes
        intro h99 hb
        rw [List.getElem?_eq_getElem hlt] at hb
        have : 2 ≤ (s.input.drop s.pos).length := by
          rcases hb with hb | hb
          · rw [Option.some.inj hb, dispatch_47] at hr
            exact two_le_of_slash_comment _ r (ne_nil_of_first hrest0) hr h99
          · rw [Option.some.inj hb, dispatch_45] at hr
            exact two_le_of_dash_comment _ _ r hr h99
        rw [List.length_drop] at this
        omega
      · rename_i hcat
        obtain ⟨more, s', hs', hstep⟩ := ih
          { s with tv := s.tv.set s.cur { r.tok with pos := r.tok.pos + s.pos }, pos := s.pos + r.next,
                   ddx := s.ddx + r.ddx, hash := s.hash + r.hash }
          (by show s.pos + r.next ≤ s.input.length; omega) (by show _ < (s.tv.set _ _).length; rw [List.length_set]; exact hc)
          (by show s.input.length - (s.pos + r.next) < fuel; omega)
        exact ⟨more, s', hs', hstep.of_skip hc rfl rfl rfl rfl rfl (Nat.le_add_right _ _) ⟨v, c1⟩ (by simpa using hcat)⟩
    · simp only [hlt, ↓reduceIte]
      exact ⟨false, s, rfl, .stay hp (Or.inl (by omega))⟩

theorem flag2Delim_ne (flags : Nat) (h : (hasFlag flags flagQuoteSingle || hasFlag flags flagQuoteDouble) = true) :
    flag2Delim flags ≠ 92 := by
  unfold flag2Delim
  split
  · decide
  · split
    · decide
    · rename_i h1 h2; simp [h1, h2] at h

theorem tokInv_empty : TokInv {} ∧ CatOK {} := ⟨⟨rfl, Nat.zero_le _⟩, catLit_ok (by decide)⟩

theorem tokenize_ok (s : State) (hp : s.pos ≤ s.input.length) (hc : s.cur < s.tv.length) :
    ∃ more s', tokenize s = .ok (more, s') ∧ TokStep s more s' := by
  unfold tokenize
  by_cases he : (s.input.length == 0) = true
  · simp only [he, ↓reduceIte]
    exact ⟨false, s, rfl, .stay hp (Or.inr (List.eq_nil_of_length_eq_zero (by simpa using he)))⟩
  · have hlen : 1 ≤ s.input.length := by
      have : ¬ s.input.length = 0 := by simpa using he
      omega
    have hc' : s.cur < (s.tv.set s.cur {}).length := by rw [List.length_set]; exact hc
    simp only [he, Bool.false_eq_true, ↓reduceIte, tvSet_ok s s.cur _ hc, ok_bind]
    split
    · rename_i hq
      simp only [Bool.and_eq_true, beq_iff_eq] at hq
      obtain ⟨r, hr, ⟨n1, n2, v, b1, f1, c1⟩, hcat⟩ :=
        parseStringCore_lexes {} s.input 0 (flag2Delim s.flags) (flag2Delim_ne s.flags hq.2) (by omega) hlen
      simp only [hr, ok_bind, tvSet_ok { s with tv := s.tv.set s.cur {} } s.cur r.tok hc']
      exact ⟨true, _, rfl, .emit hc rfl rfl rfl (List.set_set ..) rfl (by rw [hq.1]; exact n1) n2 (by rw [hcat]; decide)
        ⟨v, by omega, b1, f1, c1⟩ (fun h99 => by rw [hcat] at h99; cases h99)⟩
    · obtain ⟨more, s', hs', hstep⟩ := tokLoop_ok (s.input.length + 1) { s with tv := s.tv.set s.cur {} } hp hc'
        (by show s.input.length - s.pos < _; omega)
      exact ⟨more, s', hs', hstep.of_skip hc rfl rfl rfl rfl rfl (Nat.le_refl _) tokInv_empty rfl⟩

/-- what C16 says about one raw token -/
def RawOK (input : Bytes) (rt : RawTok) : Prop :=
  rt.tok.val = (input.drop rt.tok.pos).take rt.tok.len ∧ rt.tok.val.length = rt.tok.len ∧ rt.tok.len ≤ 31 ∧
  rt.before ≤ rt.tok.pos ∧ rt.tok.pos + rt.tok.len ≤ rt.after ∧ rt.before < rt.after ∧ rt.after ≤ input.length ∧
  rt.tok.cat ≠ 0 ∧ isClassU8 rt.tok.cat = true

/-- consecutive scan steps are adjacent and start where the stream starts -/
def Chained : Nat → List RawTok → Prop
  | _, [] => True
  | p, rt :: rest => rt.before = p ∧ Chained rt.after rest

theorem rawLoop_ok (fuel : Nat) : ∀ (s : State), s.pos ≤ s.input.length → s.cur < s.tv.length →
    s.input.length - s.pos < fuel →
    ∃ ts sf, rawLoop s fuel = .ok (ts, sf) ∧ (∀ rt ∈ ts, RawOK s.input rt) ∧ Chained s.pos ts ∧
      ts.length ≤ s.input.length - s.pos ∧ (s.input ≠ [] → sf.pos = s.input.length) ∧ sf.input = s.input := by
  induction fuel with
  | zero => intro s _ _ hf; omega
  | succ fuel ih =>
    intro s hp hc hf
    unfold rawLoop
    obtain ⟨more, s', hs', q1, q2, q3, q4, q5, q6, q7, q8, q9, _⟩ := tokenize_ok s hp hc
    simp only [hs', bind, Except.bind, pure, Except.pure]
    cases more with
    | false =>
      simp only [Bool.false_eq_true, ↓reduceIte]
      refine ⟨[], s', rfl, by simp, trivial, by simp, ?_, q1⟩
      intro hne
      rcases q9 rfl with h | h
      · exact h
      · exact absurd h hne
    | true =>
      obtain ⟨w1, t, w2, w3, ⟨⟨v1, v2⟩, w5, w6, w7, w8⟩⟩ := q8 rfl
      have hget : tvGet s' s'.cur = .ok t := tvGet_of_some (by rw [q3]; exact w2)
      obtain ⟨ts, sf, hr, r1, r2, r3, r4, r5⟩ := ih s' (by rw [q1]; exact q6) (by rw [q3, q4]; exact hc) (by rw [q1]; omega)
      simp only [↓reduceIte, hget, hr]
      refine ⟨_, sf, rfl, ?_, ⟨rfl, r2⟩, by simp; rw [q1] at r3; omega, by rw [q1] at r4; exact r4, by rw [r5, q1]⟩
      intro rt hrt
      rcases List.mem_cons.mp hrt with rfl | hrt
      · exact ⟨w7, v1, v2, w5, w6, w1, q6, w3, by rcases w8.1 with h0 | h0; exact absurd h0 w3; exact h0⟩
      · have := r1 rt hrt; rw [q1] at this; exact this

/-- **C16 on the model.** In every parsing mode the raw token stream exists (the scanner returns),
each token's value is exactly the input bytes at its recorded offset, clipped to 31 bytes; each token
lies inside the span consumed by its scan step; every scan step consumes at least one byte; scan steps
are adjacent, in increasing order, starting at 0; the scan ends exactly at end of input; and there are
at most `|s|` tokens. -/
theorem rawTokens_faithful (input : Bytes) (flags : Nat) :
    ∃ ts sf, rawTokens input flags = .ok (ts, sf) ∧ (∀ rt ∈ ts, RawOK input rt) ∧ Chained 0 ts ∧
      ts.length ≤ input.length ∧ (input ≠ [] → sf.pos = input.length) := by
  unfold rawTokens rawFuel
  have hs : (sqliInit input flags).input = input := rfl
  have hp : (sqliInit input flags).pos = 0 := rfl
  obtain ⟨ts, sf, h1, h2, h3, h4, h5, _⟩ := rawLoop_ok (input.length + 2) (sqliInit input flags)
    (by rw [hp]; omega) (by simp [sqliInit]) (by rw [hs, hp]; omega)
  rw [hs] at h2 h4 h5
  rw [hp] at h3 h4
  exact ⟨ts, sf, h1, h2, h3, by omega, h5⟩

end LibInj.Sqli
