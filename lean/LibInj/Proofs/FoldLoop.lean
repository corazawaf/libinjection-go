import LibInj.Proofs.FoldRules
/-! Safety of `fold`, part 5: one iteration of the main loop, termination of the loop, the leading
skip loop, `fold` (C01). -/
namespace LibInj.Sqli
open LibInj

theorem maxTokens_eq : maxTokens = 5 := rfl

/-- what one iteration of the main loop guarantees -/
def BodyOK (f : FS) : Step → Prop
  | .cont f' => FInv f' ∧ f'.s.input = f.s.input ∧ (XInv f → XInv f') ∧ f.more = true ∧ f.s.pos ≤ f'.s.pos ∧
      (f'.more = false ∨ bigM f' < bigM f)
  | .brk f' => FInv f' ∧ f'.s.input = f.s.input ∧ (XInv f → XInv f')
  | .ret n f' => FInv f' ∧ f'.s.input = f.s.input ∧ (XInv f → XInv f') ∧ n ≤ 7

theorem bigM_reset (f : FS) : bigM { f with left := f.pos } + 2 * (f.pos - f.left) = bigM f := by
  unfold bigM mu
  show (f.s.input.length - f.s.pos) * 1015 + f.pos * 145 + (phi f.s.tv f.pos + 2 * (f.pos - f.pos)) + 2 * (f.pos - f.left) = _
  omega

/-- `g` is a later stage of the iteration that began at `f`: the input is the same, the scanner has not
gone back, the invariant behind `notWhitelist` is kept, and the measure has not grown unless the input
has ended -/
def Later (f g : FS) : Prop :=
  g.s.input = f.s.input ∧ (XInv f → XInv g) ∧ f.s.pos ≤ g.s.pos ∧ (g.more = false ∨ bigM g ≤ bigM f)

theorem Later.refl (f : FS) : Later f f := ⟨rfl, id, Nat.le_refl _, Or.inr (Nat.le_refl _)⟩

theorem Later.evol {f g g' : FS} (h : Later f g) (hev : Evol g g') (hle : Le g g') (hp : g'.pos ≤ 6) : Later f g' :=
  ⟨hev.1.trans h.1, fun hx => xinv_evol hev (h.2.1 hx), hev.2.1 ▸ h.2.2.1,
    h.2.2.2.imp (fun hm => hev.2.2.2.2.1.trans hm) (Nat.le_trans (bigM_le_of_Le g g' hev hle hp))⟩

theorem Later.fetch {f g g' : FS} {k : Nat} (h : Later f g) (hg : Fetched k g g') : Later f g' := by
  obtain ⟨hf', _, _, hin, hsp, hx, htri, hstay⟩ := hg
  refine ⟨hin.trans h.1, fun x => hx (h.2.1 x), Nat.le_trans h.2.2.1 hsp, ?_⟩
  rcases h.2.2.2 with hm | hb
  · left; rw [hstay hm]; exact hm
  · rcases htri with ⟨he, _⟩ | hmf | hsc
    · right; rw [he]; exact hb
    · left; exact hmf
    · right
      have := bigM_lt_of_scan g g' hin hsc hf'.1.2.1 hf'.2.2.1
      omega

/-- the window is still too short after fetching: restarting with `left := pos` has lowered the measure.
Either input was read, or the loop did not run because `pos` is 6, and then `left` was behind `pos` -/
theorem Later.short {f g g' : FS} {k : Nat} (h : Later f g) (hg : Fetched k g g') (hl : g.left < 5)
    (hk : g'.pos - g'.left < k) : g'.more = false ∨ bigM { g' with left := g'.pos } < bigM f := by
  obtain ⟨hf', _, _, hin, _, _, htri, hstay⟩ := hg
  have hr := bigM_reset g'
  rcases h.2.2.2 with hm | hb
  · left; rw [hstay hm]; exact hm
  · rcases htri with ⟨he, hnc⟩ | hmf | hsc
    · subst he
      by_cases hmm : g'.more = true
      · have : ¬ g'.pos ≤ 5 := fun h5 => hnc (by unfold fetchCond; rw [hmm, maxTokens_eq]; simp [h5, hk])
        right; omega
      · exact Or.inl (by simpa using hmm)
    · exact Or.inl hmf
    · right
      have := bigM_lt_of_scan g g' hin hsc hf'.1.2.1 hf'.2.2.1
      omega

theorem body_of_step {f g : FS} {st : Step} (h : Later f g) (hmore : f.more = true)
    (hst : StepAll g st) : BodyOK f st := by
  obtain ⟨hin, hx, hsp, hm⟩ := h
  obtain ⟨hok, hrel⟩ := hst
  cases st with
  | cont f' =>
    obtain ⟨hev, hlt⟩ := hrel
    refine ⟨hok.1, by rw [hok.2]; exact hin, fun h => xinv_evol hev (hx h), hmore, by rw [hev.2.1]; exact hsp, ?_⟩
    rcases hm with hm | hm
    · left; rw [hev.2.2.2.2.1]; exact hm
    · right
      have := bigM_lt_of_Lt g f' hev hlt hok.1.2.2.1
      omega
  | brk f' => exact ⟨hok.1, by rw [hok.2]; exact hin, fun h => xinv_evol hrel (hx h)⟩
  | ret n f' => exact ⟨hok.1, by rw [hok.2.1]; exact hin, fun h => xinv_evol hrel (hx h), hok.2.2⟩

theorem foldBody_ok (f : FS) (hf : FInv f) : ∃ st, foldBody f = .ok st ∧ BodyOK f st := by
  unfold foldBody
  obtain ⟨f1, h1, hf1, hev1, hd1, _⟩ := foldSpecial_ok' f hf
  have l1 : Later f f1 := (Later.refl f).evol hev1
    (hd1.elim (fun h => h ▸ Or.inr ⟨rfl, Nat.le_refl _⟩) Or.inl) hf1.2.2.1
  simp only [h1, bind, Except.bind, pure, Except.pure]
  by_cases cb : (!f1.more || decide (f1.left ≥ maxTokens)) = true
  · rw [if_pos cb]
    exact ⟨_, rfl, ⟨hf1.1, Nat.le_refl _, hf1.2.2.1, hf1.2.2.2⟩, l1.1, l1.2.1⟩
  rw [if_neg cb]
  simp only [Bool.or_eq_true, Bool.not_eq_true', decide_eq_true_eq, not_or, Bool.not_eq_false] at cb
  have hmore : f.more = true := hev1.2.2.2.2.1 ▸ cb.1
  have hl1 : f1.left < 5 := Nat.lt_of_not_le cb.2
  obtain ⟨f2, h2, hg2⟩ := fetch_ok' 2 _ f1 hf1 (fetch_fuel_ok f1)
  have hf2 := hg2.1
  have l2 := l1.fetch hg2
  simp only [h2]
  by_cases c2 : f2.pos - f2.left < 2
  · rw [if_pos c2]
    exact ⟨_, rfl, ⟨hf2.1, Nat.le_refl _, hf2.2.2.1, hf2.2.2.2⟩, l2.1, l2.2.1, hmore, l2.2.2.1,
      l1.short (g' := f2) hg2 hl1 c2⟩
  rw [if_neg c2]
  obtain ⟨r, hr, hrok, hrrel⟩ := foldTwo_ok f2 hf2 (by omega)
  simp only [hr]
  cases r with
  | done st => exact ⟨_, rfl, body_of_step l2 hmore ⟨hrok, hrrel⟩⟩
  | next f3 =>
    obtain ⟨hf3, _, hp3, hl3, _, _⟩ := hrok
    have l3 := l2.evol hrrel.1 hrrel.2 hf3.2.2.1
    simp only []
    obtain ⟨f4, h4, hg4⟩ := fetch_ok' 3 _ f3 hf3 (fetch_fuel_ok f3)
    have hf4 := hg4.1
    have l4 := l3.fetch hg4
    simp only [h4]
    by_cases c3 : f4.pos - f4.left < 3
    · rw [if_pos c3]
      have hl2 : f2.left = f1.left := hg2.2.1
      exact ⟨_, rfl, ⟨hf4.1, Nat.le_refl _, hf4.2.2.1, hf4.2.2.2⟩, l4.1, l4.2.1, hmore, l4.2.2.1,
        l3.short (g' := f4) hg4 (by omega) c3⟩
    rw [if_neg c3]
    obtain ⟨st, hst, hstok, hstrel⟩ := foldThree_ok f4 hf4 (by omega)
    exact ⟨st, hst, body_of_step l4 hmore ⟨hstok, hstrel⟩⟩

/-- what `notWhitelist` needs from the final scanner state -/
def XFin (s : State) : Prop :=
  s.toks ≤ 2 → ∀ t ∈ s.tv, isNum t → (∃ u ∈ s.tv, u.cat = 99) → Wit s.input (t.pos + t.len)

theorem xfin_of_xinv (f : FS) (h : XInv f) : XFin f.s := by
  intro htk t ht hn ⟨u, hu, h99⟩
  exact (h.2.2 htk t ht hn).2 ⟨u, Or.inl hu, h99⟩

/-- fuel that suffices for the main loop from `f` -/
def loopT (f : FS) : Nat := if f.more then bigM f + 1 else 0

theorem foldLoop_ok (fuel : Nat) : ∀ (f : FS), FInv f → loopT f < fuel →
    ∃ n f', foldLoop f fuel = .ok (n, f') ∧ SInv f'.s ∧ f'.s.input = f.s.input ∧ n ≤ 7 ∧ (XInv f → XFin f'.s) := by
  induction fuel with
  | zero => intro f _ h; omega
  | succ fuel ih =>
    intro f hf hfu
    unfold foldLoop
    obtain ⟨st, hst, hok⟩ := foldBody_ok f hf
    simp only [hst, bind, Except.bind, pure, Except.pure]
    cases st with
    | cont f' =>
      simp only []
      obtain ⟨hf', hin', hx', hmore, _, hdec⟩ := hok
      have hfu' : loopT f' < fuel := by
        unfold loopT at hfu ⊢
        rw [hmore] at hfu
        simp only [↓reduceIte] at hfu
        rcases hdec with hd | hd
        · rw [hd]; simp only [Bool.false_eq_true, ↓reduceIte]; omega
        · split <;> omega
      obtain ⟨n, f'', h1, h2, h3, h4, h5⟩ := ih f' hf' hfu'
      exact ⟨n, f'', h1, h2, by rw [h3]; exact hin', h4, fun h => h5 (hx' h)⟩
    | ret n f' =>
      simp only []
      exact ⟨n, f', rfl, hok.1.1, hok.2.1, hok.2.2.2, fun h => xfin_of_xinv f' (hok.2.2.1 h)⟩
    | brk f' =>
      simp only []
      obtain ⟨⟨hs, hlp, hp6, hlc⟩, hin, hx'⟩ := hok
      by_cases ce : (decide (f'.left < maxTokens) && f'.lastComment.cat == 99) = true
      · rw [if_pos ce]
        have hl5 : f'.left < 5 := by simp only [Bool.and_eq_true, maxTokens_eq] at ce; exact of_decide_eq_true ce.1
        have hlc99 : f'.lastComment.cat = 99 := by simp only [Bool.and_eq_true, beq_iff_eq] at ce; exact ce.2
        simp only [tvSet_sinv hs (show f'.left < 8 by omega)]
        refine ⟨_, _, rfl, sinv_set hs _ hlc, hin, ?_, ?_⟩
        · show (if f'.left + 1 > maxTokens then maxTokens else f'.left + 1) ≤ 7
          rw [maxTokens_eq]; split <;> omega
        · intro hx htk t ht hn _
          obtain ⟨x1, x2, x3⟩ := hx' hx
          -- the stored comment is not number-like, so `t` is an old token
          have htold : t ∈ f'.s.tv := by
            rcases List.mem_or_eq_of_mem_set ht with h | h
            · exact h
            · exact absurd hn (not_isNum (h ▸ hlc99) (by decide))
          exact (x3 htk t htold hn).2 ⟨f'.lastComment, Or.inr rfl, hlc99⟩
      · rw [if_neg ce]
        refine ⟨_, _, rfl, hs, hin, ?_, fun h => xfin_of_xinv f' (hx' h)⟩
        show (if f'.left > maxTokens then maxTokens else f'.left) ≤ 7
        rw [maxTokens_eq]; split <;> omega

/-- the state handed to the main loop by the leading skip loop -/
def SkipPost (s : State) : Prop :=
  1 ≤ s.toks ∧ (∀ u ∈ s.tv, u.cat ≠ 99) ∧ (∀ t ∈ s.tv, isNum t → t.pos + t.len ≤ s.pos)

theorem skipLoop_ok (fuel : Nat) : ∀ (s : State), SInv s → s.cur = 0 →
    (∀ j t, j ≠ 0 → s.tv[j]? = some t → t.cat = 0) → s.input.length - s.pos + 1 < fuel →
    ∃ more s', skipLoop s fuel = .ok (more, s') ∧ SInv s' ∧ s'.input = s.input ∧ s'.cur = 0 ∧
      (more = true → SkipPost s') := by
  induction fuel with
  | zero => intro s _ _ _ h; omega
  | succ fuel ih =>
    intro s hs hc hz hfu
    unfold skipLoop
    obtain ⟨more, s', hr, hs', hstep⟩ := tokenize_sinv s hs (by omega)
    have hstep0 := hstep
    obtain ⟨q1, q2, q3, q4, q5, q6, q7, q8, q9, q10, q11, q12, q13⟩ := hstep
    simp only [hr, bind, Except.bind, pure, Except.pure]
    have hz' : ∀ j t, j ≠ 0 → s'.tv[j]? = some t → t.cat = 0 := by
      intro j t hj ht
      rw [q7 j (by rw [hc]; exact hj)] at ht
      exact hz j t hj ht
    cases more with
    | false =>
      simp only [Bool.not_false, ↓reduceIte]
      exact ⟨_, _, rfl, hs', q1, by rw [q3]; exact hc, fun h => by cases h⟩
    | true =>
      simp only [Bool.not_true, Bool.false_eq_true, ↓reduceIte]
      obtain ⟨t, ht, htf⟩ := tvGet_ok s' hs' s'.cur (by rw [q3]; omega)
      obtain ⟨bu, hbu⟩ := isUnaryOp_ok t htf
      simp only [ht, hbu, g, orM, toBool, bind, Except.bind, pure, Except.pure]
      obtain ⟨hadv, t', ht', htc, ⟨_, _, thi, _, _⟩⟩ := q8 rfl
      have htt : t' = t := by
        have := tvGet_some ht
        rw [q3] at this
        rw [ht'] at this
        exact Option.some.inj this
      have hnext : ∃ more s'', skipLoop s' fuel = .ok (more, s'') ∧ SInv s'' ∧ s''.input = s.input ∧ s''.cur = 0 ∧
          (more = true → SkipPost s'') := by
        obtain ⟨m, s'', h1, h2, h3, h4, h5⟩ := ih s' hs' (by rw [q3]; exact hc) hz' (by rw [q1]; omega)
        exact ⟨m, s'', h1, h2, by rw [h3]; exact q1, h4, h5⟩
      have hpost : (t.cat == 99 || t.cat == 40 || t.cat == 116) = false → SkipPost s' := by
        intro hcat
        have hmem : ∀ u ∈ s'.tv, u = t ∨ u.cat = 0 := by
          intro u hu
          obtain ⟨j, hj, hju⟩ := List.mem_iff_getElem.mp hu
          have hget : s'.tv[j]? = some u := by rw [List.getElem?_eq_getElem hj, hju]
          by_cases hj0 : j = 0
          · left
            rw [hj0, ← hc, ht'] at hget
            rw [← htt]; exact (Option.some.inj hget).symm
          · right; exact hz' j u hj0 hget
        refine ⟨by have := (q12 rfl).1; omega, ?_, ?_⟩
        · intro u hu h99
          rcases hmem u hu with h | h
          · rw [h] at h99; simp [h99] at hcat
          · rw [h] at h99; exact absurd h99 (by decide)
        · intro u hu hn
          rcases hmem u hu with h | h
          · rw [h, ← htt]; exact thi
          · exact absurd hn (not_isNum h (by decide))
      by_cases c1 : (t.cat == 99 || t.cat == 40 || t.cat == 116) = true
      · simp only [c1, ↓reduceIte, Bool.not_true, Bool.false_eq_true]
        exact hnext
      · simp only [c1]
        cases bu with
        | true => simp only [Bool.not_true, Bool.false_eq_true, ↓reduceIte]; exact hnext
        | false =>
          simp only [Bool.not_false, ↓reduceIte]
          exact ⟨_, _, rfl, hs', q1, by rw [q3]; exact hc, fun _ => hpost (by simpa using c1)⟩

end LibInj.Sqli
