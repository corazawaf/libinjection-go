import LibInj.Proofs.QString
import LibInj.Proofs.KwFacts
/-! Totality, progress and faithfulness of the 22 byte-dispatched SQL lexers (C01, C16).

Every lexer is a tree of guards whose leaves build a token with `assign`. `assign_lexes` is the fact about a leaf,
`Lexes.ite` / `Lexes.map` carry it through the guards and through the callers that re-base or re-tag a result; a proof
about a lexer evaluates the guards (`ok_bind` … `ite_ok`, once the byte reads are known to be in range) and names the leaves. -/
namespace LibInj.Properties.C06
open LibInj LibInj.Sqli

/-- the keyword split of a word applies at offset `i`: a `.` or back-tick there, and the text before it is a keyword of a
class other than bareword -/
def SplitAt (v : Bytes) (i : Nat) : Prop :=
  (v[i]? = some 46 ∨ v[i]? = some 96) ∧ searchKeyword (v.take i) ≠ 0 ∧ searchKeyword (v.take i) ≠ 110

theorem SplitAt.lt {v : Bytes} {i : Nat} (h : SplitAt v i) : i < v.length := by
  rcases h.1 with h | h <;> exact (List.getElem?_eq_some_iff.mp h).1

end LibInj.Properties.C06

namespace LibInj.Sqli
open LibInj LibInj.Spec
open LibInj.Properties.C06 (SplitAt)

theorem sliceFrom_ok (s : Bytes) (a : Nat) (h : a ≤ s.length) : sliceFrom s a = .ok (s.drop a) := by
  simp [sliceFrom, h]

/-! The guards of the lexers, evaluated: `g b <&&> byteIs s i c <&&> …` becomes a Boolean once `i` is known to be in range. -/

theorem ok_bind {α β : Type} (a : α) (f : α → M β) : ((Except.ok a : M α) >>= f) = f a := rfl
theorem g_ok (b : Bool) : g b = .ok b := rfl
theorem pure_ok (b : Bool) : (pure b : M Bool) = .ok b := rfl
theorem ok_and (b : Bool) (y : M Bool) : ((Except.ok b : M Bool) <&&> y) = if b then y else .ok false := by cases b <;> rfl
theorem ok_or (b : Bool) (y : M Bool) : ((Except.ok b : M Bool) <||> y) = if b then .ok true else y := by cases b <;> rfl
theorem ite_ok (c : Prop) [Decidable c] (a b : Bool) : (if c then (.ok a : M Bool) else .ok b) = .ok (if c then a else b) := by
  split <;> rfl
theorem byteIs_ok {s : Bytes} {i : Nat} (c : UInt8) (h : i < s.length) : byteIs s i c = .ok (s[i] == c) := by
  rw [byteIs, at'_ok h]; rfl
theorem byteNe_ok {s : Bytes} {i : Nat} (c : UInt8) (h : i < s.length) : byteNe s i c = .ok (s[i] != c) := by
  rw [byteNe, at'_ok h]; rfl

theorem bind_ok {α β : Type} {x : M α} {f : α → M β} {b : β} (h : (x >>= f) = .ok b) : ∃ a, x = .ok a ∧ f a = .ok b := by
  cases x with
  | error e => cases h
  | ok a => exact ⟨a, rfl, h⟩

theorem clip_le_31 (n : Nat) : clip n ≤ 31 := by rw [clip_eq]; omega
theorem clip_pos {n : Nat} (h : 1 ≤ n) : 1 ≤ clip n := by rw [clip_eq]; omega
theorem clip_two {n : Nat} (h : 2 ≤ n) : 2 ≤ clip n := by rw [clip_eq]; omega
theorem clip_one : clip 1 = 1 := by decide
theorem clip_of_lt {n : Nat} (h : n < 32) : clip n = n := by rw [clip_eq]; omega

/-- token well-formedness: the value has exactly `len` bytes, at most 31 -/
def TokInv (t : Token) : Prop := t.val.length = t.len ∧ t.len ≤ 31
/-- a class byte assigned to a token of `len` bytes: no token (0) or a documented class; a function
name has at least two bytes (`fold` reads `val[1]` of an `f` token) -/
def CatV (cat : UInt8) (len : Nat) : Prop :=
  (cat = 0 ∨ isClassU8 cat = true) ∧ (cat = 102 → 2 ≤ len) ∧ (cat = 99 → 1 ≤ len)
def CatOK (t : Token) : Prop := CatV t.cat t.len
/-- a literal class other than `f` (function name: two bytes needed) and `c` (comment: non-empty) -/
abbrev CatLit (cat : UInt8) : Prop := (cat = 0 ∨ isClassU8 cat = true) ∧ cat ≠ 102 ∧ cat ≠ 99

theorem catLit_ok {cat : UInt8} {len : Nat} (h : CatLit cat) : CatV cat len :=
  ⟨h.1, fun h' => absurd h' h.2.1, fun h' => absurd h' h.2.2⟩

theorem catV_comment {len : Nat} (h : 1 ≤ len) : CatV 99 len :=
  ⟨Or.inr (by decide), (fun h' => absurd h' (by decide)), fun _ => h⟩

macro "cat_lit" : tactic => `(tactic| first | exact catLit_ok (by decide) | assumption)

/-- postcondition of a lexer run on `rest`: it consumes at least one byte and at most `rest`, the
token is well-formed, lies inside the consumed span, its value is the input at its offset, and its
class is a documented one -/
def LexOK (rest : Bytes) (r : Lex) : Prop :=
  1 ≤ r.next ∧ r.next ≤ rest.length ∧ TokInv r.tok ∧ r.tok.pos + r.tok.len ≤ r.next ∧
  r.tok.val = (rest.drop r.tok.pos).take r.tok.len ∧ CatOK r.tok

def Lexes (rest : Bytes) (x : M Lex) : Prop := ∃ r, x = .ok r ∧ LexOK rest r

theorem first_lt {rest : Bytes} {c : UInt8} (h0 : rest[0]? = some c) : 0 < rest.length := by
  rcases Nat.lt_or_ge 0 rest.length with h | h
  · exact h
  · simp [List.getElem?_eq_none h] at h0

theorem length_pos_of_ne_nil {rest : Bytes} (h : rest ≠ []) : 1 ≤ rest.length := by
  cases rest with | nil => exact absurd rfl h | cons _ _ => simp

theorem LexOK.of_slice {rest : Bytes} {r : Lex} (h1 : 1 ≤ r.next) (h2 : r.next ≤ rest.length) (h3 : r.tok.len ≤ 31)
    (h4 : r.tok.pos + r.tok.len ≤ r.next) (h5 : r.tok.val = (rest.drop r.tok.pos).take r.tok.len) (h6 : CatOK r.tok) : LexOK rest r :=
  ⟨h1, h2, ⟨by rw [h5, List.length_take, List.length_drop]; omega, h3⟩, h4, h5, h6⟩

/-- the one way a lexer builds its token: `assign` of `length` bytes at offset `pos` of `rest`, inside the
consumed span `next`; `k` may set marks and counters, not the slice -/
theorem assign_lexes {rest : Bytes} {t : Token} {cat : UInt8} {length : Nat} {k : Token → Lex} (pos next : Nat)
    (hn : 1 ≤ next ∧ pos + length ≤ next ∧ next ≤ rest.length)
    (hk : ∀ t', (k t').next = next ∧ (k t').tok.pos = t'.pos ∧ (k t').tok.len = t'.len ∧ (k t').tok.val = t'.val ∧ (k t').tok.cat = t'.cat := by
      exact fun _ => ⟨rfl, rfl, rfl, rfl, rfl⟩)
    (hcat : CatV cat (clip length) := by cat_lit) :
    Lexes rest (do let t' ← assign t cat pos length (rest.drop pos); return k t') := by
  have hc := clip_le length
  rw [assign_ok _ _ _ _ _ (by rw [List.length_drop]; omega)]
  obtain ⟨k1, k2, k3, k4, k5⟩ := hk { t with cat := cat, pos := pos, len := clip length, val := (rest.drop pos).take (clip length) }
  refine ⟨_, rfl, .of_slice (by omega) (by omega) (by rw [k3]; exact clip_le_31 _) (by rw [k1, k2, k3]; show pos + clip length ≤ next; omega)
    (by rw [k4, k2, k3]) ?_⟩
  unfold CatOK; rw [k5, k3]; exact hcat

theorem parseWhite_lexes (rest : Bytes) (h : rest ≠ []) : Lexes rest (parseWhite rest) :=
  ⟨_, rfl, Nat.le_refl 1, length_pos_of_ne_nil h, ⟨rfl, Nat.zero_le _⟩, Nat.zero_le _, rfl, catLit_ok (by decide)⟩

theorem parseOperator1_lexes (rest : Bytes) (h : rest ≠ []) : Lexes rest (parseOperator1 rest) :=
  assign_lexes 0 1 ⟨Nat.le_refl _, Nat.le_refl _, length_pos_of_ne_nil h⟩

theorem parseOther_lexes (rest : Bytes) (h : rest ≠ []) : Lexes rest (parseOther rest) :=
  assign_lexes 0 1 ⟨Nat.le_refl _, Nat.le_refl _, length_pos_of_ne_nil h⟩


theorem Lexes.of_eq {rest : Bytes} {x y : M Lex} (h : Lexes rest x) (e : y = x) : Lexes rest y := e ▸ h

theorem Lexes.ite {rest : Bytes} {c : Prop} [Decidable c] {x y : M Lex} (hx : Lexes rest x) (hy : Lexes rest y) :
    Lexes rest (if c then x else y) := by
  split <;> assumption

theorem Lexes.and_guard {rest : Bytes} {p : Prop} [Decidable p] {y : M Bool} {x z : M Lex} (hz : Lexes rest z)
    (hy : p → Lexes rest z → Lexes rest (do if ← y then x else z)) : Lexes rest (do if ← (g (decide p) <&&> y) then x else z) := by
  by_cases h : p
  · simpa only [g_ok, ok_and, h, decide_true, ↓reduceIte] using hy h hz
  · simpa only [g_ok, ok_and, ok_bind, h, decide_false, Bool.false_eq_true, ↓reduceIte] using hz

theorem Lexes.or_guard {rest : Bytes} {p : Prop} [Decidable p] {y : M Bool} {x z : M Lex} (hx : Lexes rest x)
    (hy : ¬ p → Lexes rest x → Lexes rest (do if ← y then x else z)) : Lexes rest (do if ← (g (decide p) <||> y) then x else z) := by
  by_cases h : p
  · simpa only [g_ok, ok_or, ok_bind, h, decide_true, ↓reduceIte] using hx
  · simpa only [g_ok, ok_or, h, decide_false, Bool.false_eq_true, ↓reduceIte] using hy h hx

theorem Lexes.map {rest rest' : Bytes} {x : M Lex} (h : Lexes rest' x) (f : Lex → Lex) (hf : ∀ r, LexOK rest' r → LexOK rest (f r)) :
    Lexes rest (do let r ← x; return f r) := by
  obtain ⟨r, rfl, hr⟩ := h
  exact ⟨_, rfl, hf r hr⟩

/-- a token built from the constant `[c]` (`#`, `-`, `.`, `$`) is the slice of the input: the lexer was dispatched on `c` -/
theorem assign_first {rest : Bytes} {c : UInt8} (h0 : rest[0]? = some c) (t : Token) (cat : UInt8) :
    assign t cat 0 1 [c] = assign t cat 0 1 rest := by
  cases rest with
  | nil => cases h0
  | cons x xs =>
    cases Option.some.inj h0
    rw [assign_ok _ _ _ _ _ (by rw [clip_one]; simp), assign_ok _ _ _ _ _ (by rw [clip_one]; simp), clip_one]; rfl

theorem parseEolComment_lexes (rest : Bytes) (h : rest ≠ []) (hnl : rest[0]? ≠ some 10) : Lexes rest (parseEolComment rest) := by
  have hl := length_pos_of_ne_nil h
  unfold parseEolComment
  cases hi : indexByte rest 10 with
  | none => exact assign_lexes 0 rest.length (by omega) (hcat := catV_comment (clip_pos hl))
  | some i =>
    have hlt := indexByte_lt hi
    have hi1 : 1 ≤ i := by
      rcases Nat.eq_zero_or_pos i with rfl | h0
      · exact absurd ((indexByte_some_iff _ _ _).mp hi).1 hnl
      · exact h0
    exact assign_lexes 0 (i + 1) (by omega) (hcat := catV_comment (clip_pos hi1))

theorem ne_nil_of_first {rest : Bytes} {c : UInt8} (h0 : rest[0]? = some c) : rest ≠ [] := by
  intro h; simp [h] at h0

theorem parseHash_lexes (flags : Nat) (rest : Bytes) (h0 : rest[0]? = some 35) : Lexes rest (parseHash flags rest) := by
  unfold parseHash
  split
  · exact (parseEolComment_lexes rest (ne_nil_of_first h0) (by rw [h0]; decide)).map _ (fun _ h => h)
  · rw [assign_first h0]
    exact assign_lexes 0 1 ⟨Nat.le_refl _, Nat.le_refl _, first_lt h0⟩

theorem parseDash_lexes (flags : Nat) (rest : Bytes) (h0 : rest[0]? = some 45) : Lexes rest (parseDash flags rest) := by
  have hl := first_lt h0
  have eol := parseEolComment_lexes rest (ne_nil_of_first h0) (by rw [h0]; decide)
  have eolx := eol.map (fun r => { r with ddx := 1 }) (fun _ h => h)
  have dash : Lexes rest (do return { tok := ← assign {} 111 0 1 [45], next := 1 }) := by
    rw [assign_first h0]; exact assign_lexes 0 1 (by omega)
  unfold parseDash
  refine .and_guard (.and_guard (.and_guard dash fun h1 d => ?_) fun h2 c3 => ?_) fun h2 c2 => ?_
  · simp only [byteIs_ok _ h1, g_ok, ok_and, ite_ok, ok_bind]
    exact .ite eolx d
  · simp only [byteIs_ok _ (show 1 < rest.length by omega), ok_bind] at c3 ⊢
    exact .ite eol c3
  · simp only [byteIs_ok _ (show 1 < rest.length by omega), at'_ok h2, pure_ok, ok_and, ite_ok, ok_bind] at c2 ⊢
    exact .ite eol c2

theorem parseByte_lexes (rest : Bytes) (c : UInt8) (h0 : rest[0]? = some c) (hcl : CatLit c) : Lexes rest (parseByte rest) := by
  obtain ⟨hl, hc0⟩ := List.getElem?_eq_some_iff.mp h0
  unfold parseByte
  simp only [at'_ok hl, ok_bind, hc0]
  exact assign_lexes 0 1 (by omega) (hcat := catLit_ok hcl)

theorem catV_searchKeyword (w : Bytes) {n : Nat} (h : w.length ≤ n) : CatV (searchKeyword w) n := by
  rcases searchKeyword_cases w with h0 | ⟨hcl, hf, h1⟩
  · rw [h0]; exact catLit_ok (by decide)
  · exact ⟨Or.inr hcl, fun h102 => by have := hf h102; omega, fun _ => by omega⟩

theorem splitLoop_succ (rest : Bytes) (t : Token) (hv : t.val.length = t.len) (hr : t.len ≤ rest.length) (i fuel : Nat) :
    (SplitAt t.val i → splitLoop rest t i (fuel + 1) =
      .ok (some { tok := { cat := searchKeyword (t.val.take i), pos := 0, len := clip i, val := rest.take (clip i) }, next := i })) ∧
    (¬ SplitAt t.val i → splitLoop rest t i (fuel + 1) = if i < t.len then splitLoop rest t (i + 1) fuel else .ok none) := by
  rw [splitLoop]
  by_cases hi : i < t.len
  · have hlt : i < t.val.length := by omega
    have hiff : SplitAt t.val i ↔ (t.val[i] == 46 || t.val[i] == 96) = true ∧
        (searchKeyword (t.val.take i) != 0 && searchKeyword (t.val.take i) != 110) = true := by
      simp [SplitAt, List.getElem?_eq_getElem hlt]
    simp only [hi, ↓reduceIte, at'_ok hlt, ok_bind, slice_ok t.val 0 i (Nat.zero_le _) (by omega), List.drop_zero, Nat.sub_zero]
    refine ⟨fun hs => ?_, fun hs => ?_⟩
    · obtain ⟨h1, h2⟩ := hiff.mp hs
      simp only [h1, h2, ↓reduceIte, assign_ok _ _ _ _ _ (show clip i ≤ rest.length by have := clip_le i; omega), ok_bind]
      rfl
    · split
      · split
        · exact absurd (hiff.mpr ⟨‹_›, ‹_›⟩) hs
        · rfl
      · rfl
  · rw [if_neg hi, if_neg hi]
    exact ⟨fun hs => by have := hs.lt; omega, fun _ => rfl⟩

theorem splitLoop_ok (rest : Bytes) (t : Token) (ht : t.val.length = t.len) (hl : t.len ≤ 31) (hr : t.len ≤ rest.length) :
    ∀ fuel i, ∃ o, splitLoop rest t i fuel = .ok o ∧ ∀ r, o = some r → LexOK rest r := by
  intro fuel
  induction fuel with
  | zero => intro i; exact ⟨none, rfl, fun _ h => by cases h⟩
  | succ fuel ih =>
    intro i
    obtain ⟨hit, miss⟩ := splitLoop_succ rest t ht hr i fuel
    by_cases hs : SplitAt t.val i
    · refine ⟨_, hit hs, fun _ h => ?_⟩
      cases h
      have hi := hs.lt
      have hw : (t.val.take i).length = i := by rw [List.length_take]; omega
      -- a keyword is not empty, so the split consumes at least one byte
      have hi1 : 1 ≤ i := by
        rcases searchKeyword_cases (t.val.take i) with h0 | ⟨_, _, h1⟩
        · exact absurd h0 hs.2.1
        · omega
      have hc := clip_le i
      exact .of_slice hi1 (by show i ≤ _; omega) (clip_le_31 _) (by show 0 + clip i ≤ i; omega) rfl
        (catV_searchKeyword (t.val.take i) (n := clip i) (by rw [hw, clip_of_lt (by omega)]; exact Nat.le_refl _))
    · rw [miss hs]
      split
      · exact ih (i + 1)
      · exact ⟨none, rfl, fun _ h => by cases h⟩

theorem spn_pos (p : UInt8 → Bool) (rest : Bytes) (c : UInt8) (h0 : rest[0]? = some c) (hp : p c = true) :
    1 ≤ spn p rest := by
  cases rest with
  | nil => cases h0
  | cons x xs => cases Option.some.inj h0; simp [spn, hp]

theorem spn_drop_le (p : UInt8 → Bool) (s : Bytes) (k : Nat) : spn p (s.drop k) ≤ s.length - k :=
  List.length_drop ▸ spn_le p (s.drop k)

theorem LexOK.retag {rest : Bytes} {r r' : Lex} (h : LexOK rest r) (hn : r'.next = r.next) (hp : r'.tok.pos = r.tok.pos)
    (hl : r'.tok.len = r.tok.len) (hv : r'.tok.val = r.tok.val) (hc : r'.tok.cat = r.tok.cat ∨ CatOK r'.tok) : LexOK rest r' := by
  obtain ⟨a1, a2, ⟨a3, a4⟩, a5, a6, a7⟩ := h
  refine ⟨hn ▸ a1, hn ▸ a2, ⟨by rw [hv, hl]; exact a3, hl ▸ a4⟩, by rw [hn, hp, hl]; exact a5, by rw [hv, hp, hl]; exact a6, ?_⟩
  rcases hc with hc | hc
  · show CatV r'.tok.cat r'.tok.len
    rw [hc, hl]; exact a7
  · exact hc

theorem LexOK.shift {rest : Bytes} {p : Nat} {r : Lex} (hp : p ≤ rest.length) (h : LexOK (rest.drop p) r) :
    LexOK rest (shift r p) := by
  obtain ⟨a1, a2, ⟨a3, a4⟩, a5, a6, a7⟩ := h
  rw [List.length_drop] at a2
  refine ⟨by show 1 ≤ r.next + p; omega, by show r.next + p ≤ rest.length; omega, ⟨a3, a4⟩,
    by show r.tok.pos + p + r.tok.len ≤ r.next + p; omega, ?_, a7⟩
  show r.tok.val = (rest.drop (r.tok.pos + p)).take r.tok.len
  rw [a6, List.drop_drop, Nat.add_comm]

theorem parseWord_lexes (rest : Bytes) (c : UInt8) (h0 : rest[0]? = some c) (hc : notWordAccept c = true) :
    Lexes rest (parseWord rest) := by
  have h1 := spn_pos notWordAccept rest c h0 hc
  have h2 := spn_le notWordAccept rest
  unfold parseWord
  generalize spn notWordAccept rest = length at h1 h2 ⊢
  have hcl := clip_le length
  simp only []
  rw [assign_ok _ _ _ _ _ (by omega)]
  -- the whole run as a bareword
  have base : LexOK rest { tok := { cat := 110, pos := 0, len := clip length, val := rest.take (clip length) }, next := length } :=
    .of_slice h1 h2 (clip_le_31 _) (by show 0 + clip length ≤ length; omega) rfl (catLit_ok (cat := 110) (by decide))
  obtain ⟨o, hs, ho⟩ := splitLoop_ok rest _ base.2.2.1.1 (clip_le_31 _) (by show clip length ≤ _; omega) (clip length + 1) 0
  simp only [ok_bind, hs]
  cases o with
  | some r => exact ⟨r, rfl, ho r rfl⟩
  | none =>
    simp only []
    split
    · rename_i hlt
      have hv : (rest.take (clip length)).length = length := by rw [List.length_take, clip_of_lt hlt]; omega
      rw [slice_ok _ 0 length (by omega) (by omega)]
      refine ⟨_, rfl, base.retag rfl rfl rfl rfl (Or.inr ?_)⟩
      show CatV (if _ then 110 else _) (clip length)
      split
      · cat_lit
      · exact catV_searchKeyword _ (by rw [List.length_take, List.length_drop, clip_of_lt hlt]; omega)
    · exact ⟨_, rfl, base⟩

theorem parseStringCore_lexes (t : Token) (rest : Bytes) (offset : Nat) (d : UInt8) (hd : d ≠ 92)
    (ho : offset ≤ rest.length) (h1 : 1 ≤ rest.length) :
    ∃ r, parseStringCore t rest offset d = .ok r ∧ LexOK rest r ∧ r.tok.cat = 115 := by
  have hspec := parseStringCore_spec t rest offset d hd ho
  cases hq : closingQuote (rest.drop offset) d with
  | none =>
    have hc := clip_le (rest.length - offset)
    simp only [hq] at hspec
    exact ⟨_, hspec, .of_slice h1 (Nat.le_refl _) (clip_le_31 _) (by show offset + clip (rest.length - offset) ≤ rest.length; omega) rfl
      (catLit_ok (cat := 115) (by decide)), rfl⟩
  | some q =>
    have hlt := closingQuote_lt _ _ _ hq
    rw [List.length_drop] at hlt
    have hc := clip_le q
    simp only [hq] at hspec
    exact ⟨_, hspec, .of_slice (by show 1 ≤ offset + q + 1; omega) (by show offset + q + 1 ≤ rest.length; omega) (clip_le_31 _)
      (by show offset + clip q ≤ offset + q + 1; omega) rfl (catLit_ok (cat := 115) (by decide)), rfl⟩

theorem parseString_lexes (t : Token) (rest : Bytes) (c : UInt8) (h0 : rest[0]? = some c) (hc : c ≠ 92) :
    Lexes rest (parseString t rest) := by
  obtain ⟨hl, hc0⟩ := List.getElem?_eq_some_iff.mp h0
  unfold parseString
  simp only [at'_ok hl, ok_bind, hc0]
  obtain ⟨r, h1, h2, _⟩ := parseStringCore_lexes t rest 1 c hc (by omega) (by omega)
  exact ⟨r, h1, h2⟩

theorem parseTick_lexes (t : Token) (rest : Bytes) (h : rest ≠ []) : Lexes rest (parseTick t rest) := by
  have hl := length_pos_of_ne_nil h
  unfold parseTick
  obtain ⟨r, h1, h2, _⟩ := parseStringCore_lexes t rest 1 96 (by decide) (by omega) hl
  have hv : r.tok.val.length = r.tok.len := h2.2.2.1.1
  simp only [h1, ok_bind, slice_ok r.tok.val 0 r.tok.len (by omega) (by omega)]
  refine ⟨_, rfl, h2.retag rfl rfl rfl rfl (Or.inr ?_)⟩
  show CatV (if _ then 102 else 110) r.tok.len
  split
  · rename_i h102
    have := catV_searchKeyword ((r.tok.val.drop 0).take (r.tok.len - 0)) (n := r.tok.len) (by rw [List.length_take]; omega)
    rwa [eq_of_beq h102] at this
  · cat_lit

theorem parseEString_lexes (rest : Bytes) (c : UInt8) (h0 : rest[0]? = some c) (hc : notWordAccept c = true) :
    Lexes rest (parseEString rest) := by
  have word := parseWord_lexes rest c h0 hc
  unfold parseEString
  refine .or_guard word fun h2 _ => ?_
  simp only [byteNe_ok _ (show 1 < rest.length by omega), ok_bind]
  obtain ⟨r, h1, h2, _⟩ := parseStringCore_lexes {} rest 2 39 (by decide) (by omega) (by omega)
  exact .ite word ⟨r, h1, h2⟩

theorem parseUString_lexes (rest : Bytes) (c : UInt8) (h0 : rest[0]? = some c) (hc : notWordAccept c = true) :
    Lexes rest (parseUString rest) := by
  have word := parseWord_lexes rest c h0 hc
  unfold parseUString
  refine .and_guard word fun h2 _ => ?_
  simp only [ok_and, ok_bind, ite_ok, byteIs_ok _ (show 1 < rest.length by omega), byteIs_ok _ h2, sliceFrom_ok rest 2 (by omega)]
  split
  · split
    · rename_i hq
      replace hq : (rest.drop 2)[0]? = some 39 := by
        rw [List.getElem?_drop, List.getElem?_eq_getElem h2, eq_of_beq hq]
      refine (parseString_lexes {} _ 39 hq (by decide)).map _ fun r h => ?_
      exact (LexOK.shift (p := 2) (by omega) h).retag rfl rfl rfl rfl (Or.inl rfl)
    · exact word
  · exact word

theorem parseBackSlash_lexes (rest : Bytes) (h : rest ≠ []) : Lexes rest (parseBackSlash rest) := by
  have hl := length_pos_of_ne_nil h
  unfold parseBackSlash
  refine .and_guard (assign_lexes 0 1 (by omega)) fun h1 one => ?_
  simp only [byteIs_ok _ h1, ok_bind]
  exact .ite (assign_lexes 0 2 (by omega)) one

theorem parseBWord_lexes (rest : Bytes) (h : rest ≠ []) : Lexes rest (parseBWord rest) := by
  have hl := length_pos_of_ne_nil h
  unfold parseBWord
  cases hi : indexByte rest 93 with
  | none => exact assign_lexes 0 rest.length (by omega)
  | some e =>
    have hlt := indexByte_lt hi
    exact assign_lexes 0 (e + 1) (by omega)

theorem isPrefix_length : ∀ (n l : Bytes), isPrefix n l = true → n.length ≤ l.length
  | [], _, _ => by simp
  | _ :: _, [], h => by simp [isPrefix] at h
  | a :: as, b :: bs, h => by
    simp only [isPrefix, Bool.and_eq_true] at h
    have := isPrefix_length as bs h.2
    simp; omega

theorem indexOf_add_le {s n : Bytes} {k i : Nat} (hi : indexOf (s.drop k) n = some i) : i + n.length ≤ s.length - k := by
  obtain ⟨h1, h2, _⟩ := (indexOf_some_iff _ n i).mp hi
  have := isPrefix_length _ _ h2
  simp only [List.length_drop] at h1 this
  omega

theorem parseOperator2_lexes (rest : Bytes) (h : rest ≠ []) : Lexes rest (parseOperator2 rest) := by
  have hl := length_pos_of_ne_nil h
  have op1 := parseOperator1_lexes rest h
  unfold parseOperator2
  simp only []
  split
  · exact op1
  · have h0 : 0 < rest.length := by omega
    have h1 : 1 < rest.length := by omega
    have tail : Lexes rest (do
        let ch := searchKeyword (← slice rest 0 2)
        if ch != 0 then return { tok := ← assign {} ch 0 2 rest, next := 2 }
        else if (← at' rest 0) == 58 then return { tok := ← assign {} 58 0 1 rest, next := 1 }
        else parseOperator1 rest) := by
      simp only [slice_ok rest 0 2 (by omega) h1, at'_ok h0, ok_bind]
      exact .ite (assign_lexes 0 2 (by omega) (hcat := catV_searchKeyword _ (by rw [List.length_take, clip_of_lt (by omega)]; omega)))
        (.ite (assign_lexes 0 1 (by omega)) op1)
    refine .and_guard tail fun h3 _ => ?_
    simp only [ok_and, ok_bind, ite_ok, byteIs_ok _ h0, byteIs_ok _ h1, byteIs_ok _ h3]
    exact .ite (assign_lexes 0 3 (by omega)) tail

theorem parseXBString_lexes (digits : Bytes) (rest : Bytes) (c : UInt8) (h0 : rest[0]? = some c) (hc : notWordAccept c = true) :
    Lexes rest (parseXBString digits rest) := by
  have word := parseWord_lexes rest c h0 hc
  unfold parseXBString
  refine .or_guard word fun h2 _ => ?_
  simp only [byteNe_ok _ (show 1 < rest.length by omega), sliceFrom_ok rest 2 (by omega), ok_bind]
  refine .ite word ?_
  have hs := spn_drop_le (mem digits) rest 2
  generalize spn (mem digits) (rest.drop 2) = length at hs ⊢
  refine .or_guard word fun h3 _ => ?_
  simp only [byteNe_ok _ (show 2 + length < rest.length by omega), ok_bind]
  exact .ite word (assign_lexes 0 (2 + length + 1) (by omega))

theorem parseSlash_op (rest : Bytes) (hne : rest ≠ []) (h1 : rest[1]? ≠ some 42) : parseSlash rest = parseOperator1 rest := by
  have hl := length_pos_of_ne_nil hne
  unfold parseSlash
  by_cases hn : 1 = rest.length
  · simp only [g_ok, ok_or, ok_bind, beq_iff_eq, hn, ↓reduceIte]
  · have h2 : 1 < rest.length := by omega
    have : (rest[1] != 42) = true := by rw [List.getElem?_eq_getElem h2] at h1; simpa using h1
    simp only [g_ok, ok_or, ok_bind, beq_iff_eq, hn, ↓reduceIte, byteNe_ok _ h2, this]

/-- a `/* … */` comment ends with the first `*/` after the opener, or runs to the end of input; it is of class `X` when
its text up to the terminator's `*` has a nested `/*`, or starts with `!` -/
theorem parseSlash_comment (rest : Bytes) (h1 : rest[1]? = some 42) :
    parseSlash rest = (do
      let index := indexOf (rest.drop 2) [42, 47]
      let evil := (match index with | some i => contains ((rest.drop 2).take (i + 1)) [47, 42] | none => false) || rest[2]? == some 33
      let length := match index with | none => rest.length | some i => 2 + i + 2
      return { tok := ← assign {} (if evil then 88 else 99) 0 length rest, next := length }) := by
  obtain ⟨h2, h42⟩ := List.getElem?_eq_some_iff.mp h1
  have hn : ¬ 1 = rest.length := by omega
  have : (rest[1] != 42) = false := by simp [h42]
  unfold parseSlash
  simp only [g_ok, ok_or, ok_bind, beq_iff_eq, hn, ↓reduceIte, byteNe_ok _ h2, this, Bool.false_eq_true, sliceFrom_ok rest 2 (by omega)]
  cases hi : indexOf (rest.drop 2) [42, 47] with
  | none =>
    simp only []
    by_cases h3 : 2 < rest.length
    · simp [h3, at'_ok h3, ok_bind]
    · simp [h3, ok_bind]
  | some i =>
    have : i + 2 ≤ rest.length - 2 := indexOf_add_le hi
    have h3 : 2 < rest.length := by omega
    simp only [slice_ok rest 2 (2 + i + 1) (by omega) (by omega), h3, ↓reduceIte, at'_ok h3, ok_bind,
      List.getElem?_eq_getElem h3, show 2 + i + 1 - 2 = i + 1 by omega]
    cases contains ((rest.drop 2).take (i + 1)) [47, 42] <;> simp [ok_bind]

theorem parseSlash_lexes (rest : Bytes) (h : rest ≠ []) : Lexes rest (parseSlash rest) := by
  have hl := length_pos_of_ne_nil h
  by_cases h1 : rest[1]? = some 42
  · rw [parseSlash_comment rest h1]
    have cat : ∀ (b : Bool) (n : Nat), 1 ≤ n → CatV (if b then 88 else 99) (clip n) := fun b n hn => by
      cases b
      · exact catV_comment (clip_pos hn)
      · exact catLit_ok (by decide)
    cases hi : indexOf (rest.drop 2) [42, 47] with
    | none => simp only []; exact assign_lexes 0 rest.length (by omega) (hcat := cat _ _ hl)
    | some i =>
      have : i + 2 ≤ rest.length - 2 := indexOf_add_le hi
      simp only []
      exact assign_lexes 0 (2 + i + 2) (by omega) (hcat := cat _ _ (by omega))
  · rw [parseSlash_op rest h h1]
    exact parseOperator1_lexes rest h

theorem LexOK.var {rest : Bytes} {p : Nat} {r : Lex} (hp : p ≤ rest.length) (h : LexOK (rest.drop p) r) :
    LexOK rest (Sqli.shift { r with tok := { r.tok with cat := 118 } } p) :=
  .shift hp (h.retag (r' := { r with tok := { r.tok with cat := 118 } }) rfl rfl rfl rfl (Or.inr (catLit_ok (cat := 118) (by decide))))

theorem parseVar_lexes (rest : Bytes) (h : rest ≠ []) : Lexes rest (parseVar rest) := by
  have hl := length_pos_of_ne_nil h
  unfold parseVar
  simp only []
  -- the two shapes of (p, count): `@@` or `@`
  generalize hpc : (if 1 < rest.length && rest[1]? == some 64 then ((2, 2) : Nat × Nat) else (1, 1)) = pc
  obtain ⟨p, count⟩ := pc
  have hp : 1 ≤ p ∧ p ≤ rest.length := by
    split at hpc <;> cases hpc
    · rename_i hat; simp only [Bool.and_eq_true, decide_eq_true_eq] at hat; omega
    · omega
  simp only []
  split
  · rename_i hlt
    have hdne : rest.drop p ≠ [] := fun hn => by have := congrArg List.length hn; simp at this; omega
    simp only [at'_ok hlt, sliceFrom_ok rest p hp.2, ok_bind]
    split
    · exact (parseTick_lexes _ _ hdne).map _ fun r hr => hr.var hp.2
    · split
      · rename_i hq
        have hq0 : (rest.drop p)[0]? = some rest[p] := by simp [List.getElem?_drop, List.getElem?_eq_getElem hlt]
        have hne92 : rest[p] ≠ 92 := fun h92 => by rw [h92] at hq; simp at hq
        exact (parseString_lexes _ _ _ hq0 hne92).map _ fun r hr => hr.var hp.2
      · have hs := spn_drop_le notVarAccept rest p
        exact assign_lexes p (p + spn notVarAccept (rest.drop p)) (by omega)
  · simp only [sliceFrom_ok rest p hp.2, ok_bind]
    exact assign_lexes p p (by omega)

theorem parseQStringCore_lexes (rest : Bytes) (offset : Nat) (c : UInt8) (h0 : rest[0]? = some c) (hc : notWordAccept c = true) :
    Lexes rest (parseQStringCore rest offset) := by
  have word := parseWord_lexes rest c h0 hc
  unfold parseQStringCore
  simp only []
  by_cases hp : offset + 2 < rest.length
  · have hp0 : ¬ offset ≥ rest.length := by omega
    have hp2 : ¬ offset + 2 ≥ rest.length := by omega
    simp only [hp0, hp2, ↓reduceIte, at'_ok (show offset < rest.length by omega), at'_ok (show offset + 1 < rest.length by omega),
      at'_ok hp, ok_bind, pure_ok, ite_ok, sliceFrom_ok rest (offset + 3) (by omega)]
    refine .ite word (.ite word ?_)
    cases hi : indexOf (rest.drop (offset + 3)) [qClose rest[offset + 2], 39] with
    | none => exact assign_lexes (offset + 3) rest.length (by omega)
    | some i =>
      have : i + 2 ≤ rest.length - (offset + 3) := indexOf_add_le hi
      exact assign_lexes (offset + 3) (offset + 3 + i + 2) (by omega)
  · by_cases hp0 : offset ≥ rest.length
    · simp only [hp0, ↓reduceIte, ok_bind, pure_ok]
      exact word
    · have hp2 : offset + 2 ≥ rest.length := by omega
      simp only [hp0, hp2, ↓reduceIte, at'_ok (show offset < rest.length by omega), ok_bind, pure_ok, ite_self]
      exact word

theorem parseNqString_lexes (rest : Bytes) (c : UInt8) (h0 : rest[0]? = some c) (hc : notWordAccept c = true) :
    Lexes rest (parseNqString rest) := by
  have q := parseQStringCore_lexes rest 1 c h0 hc
  unfold parseNqString
  refine .and_guard q fun h2 _ => ?_
  simp only [byteIs_ok _ (show 1 < rest.length by omega), ok_bind]
  exact .ite (parseEString_lexes rest c h0 hc) q

theorem parseMoney_lexes (rest : Bytes) (h0 : rest[0]? = some 36) : Lexes rest (parseMoney rest) := by
  have hl := first_lt h0
  have dollar : Lexes rest (do return { tok := ← assign {} 110 0 1 [36], next := 1 }) := by
    rw [assign_first h0]; exact assign_lexes 0 1 (by omega)
  unfold parseMoney
  simp only []
  split
  · rename_i h1
    rw [← eq_of_beq h1]; exact dollar
  · rename_i h1
    have h2 : 2 ≤ rest.length := by simp at h1; omega
    simp only [sliceFrom_ok rest 1 (by omega), ok_bind]
    have hs := spn_drop_le isMoneyChar rest 1
    generalize spn isMoneyChar (rest.drop 1) = length at hs ⊢
    split
    · simp only [at'_ok (show 1 < rest.length by omega), ok_bind]
      split
      · -- `$$ … $$`
        simp only [sliceFrom_ok rest 2 h2, ok_bind]
        cases hi : indexOf (rest.drop 2) [36, 36] with
        | none => exact assign_lexes 2 rest.length (by omega)
        | some i =>
          have : i + 2 ≤ rest.length - 2 := indexOf_add_le hi
          exact assign_lexes 2 (2 + i + 2) (by omega)
      · have hx := spn_drop_le isLetter rest 1
        generalize spn isLetter (rest.drop 1) = xlen at hx ⊢
        refine .ite dollar ?_
        refine .or_guard dollar fun hedge _ => ?_
        -- `$tag$ … $tag$`
        simp only [byteNe_ok _ (show xlen + 1 < rest.length by omega), sliceFrom_ok rest (xlen + 2) (by omega),
          slice_ok rest 0 (xlen + 2) (by omega) (by omega), ok_bind]
        refine .ite dollar ?_
        cases hi : indexOf (rest.drop (xlen + 2)) ((rest.drop 0).take (xlen + 2 - 0)) with
        | none => exact assign_lexes (xlen + 2) rest.length (by omega)
        | some i =>
          have := indexOf_add_le hi
          simp only [List.length_take, List.drop_zero, Nat.sub_zero] at this
          exact assign_lexes (xlen + 2) (xlen + 2 + i + xlen + 2) (by omega)
    · have num : Lexes rest (do return { tok := ← assign {} 49 0 (length + 1) rest, next := length + 1 }) :=
        assign_lexes 0 (length + 1) (by omega)
      refine .and_guard num fun h11 _ => ?_
      simp only [byteIs_ok _ (show 1 < rest.length by omega), ok_bind]
      exact .ite (parseWord_lexes rest 36 h0 (by decide)) num

theorem numPrefixed_lexes (ds rest : Bytes) (h2 : 2 ≤ rest.length) : Lexes rest (numPrefixed ds rest) := by
  unfold numPrefixed
  simp only [sliceFrom_ok rest 2 h2, ok_bind]
  have hs := spn_drop_le (mem ds) rest 2
  exact .ite (assign_lexes 0 2 (by omega)) (assign_lexes 0 (2 + spn (mem ds) (rest.drop 2)) (by omega))

theorem numDigitSet_ok (rest : Bytes) (c0 : UInt8) :
    ∃ od, numDigitSet rest c0 = .ok od ∧ (od.isSome = true → 2 ≤ rest.length) := by
  unfold numDigitSet
  split
  · rename_i hcnd
    have h1 : 1 < rest.length := by
      simp only [Bool.and_eq_true, decide_eq_true_eq] at hcnd; exact hcnd.2
    simp only [at'_ok h1, ok_bind]
    split
    · exact ⟨_, rfl, fun _ => h1⟩
    · split
      · exact ⟨_, rfl, fun _ => h1⟩
      · exact ⟨_, rfl, fun h => by cases h⟩
  · exact ⟨_, rfl, fun h => by cases h⟩

theorem numDot_ok (rest : Bytes) (pos : Nat) (hp : pos ≤ rest.length) :
    ∃ p1 d, numDot rest pos = .ok (p1, d) ∧ pos ≤ p1 ∧ p1 ≤ rest.length ∧ (rest[pos]? = some 46 → pos < p1) ∧
      (d = true → p1 = 1 ∧ rest[0]? = some 46) := by
  unfold numDot
  by_cases hlt : pos < rest.length
  · simp only [g_ok, ok_and, ok_bind, hlt, decide_true, ↓reduceIte, byteIs_ok _ hlt, List.getElem?_eq_getElem hlt, Option.some.injEq]
    split
    · rename_i hdot
      simp only [sliceFrom_ok rest (pos + 1) (by omega), ok_bind]
      have hk := spn_drop_le isDigit rest (pos + 1)
      refine ⟨_, _, rfl, by omega, by omega, fun _ => by omega, fun hd => ?_⟩
      have h1 : pos + 1 + spn isDigit (rest.drop (pos + 1)) = 1 := by simpa using hd
      have hp0 : pos = 0 := by omega
      subst hp0
      exact ⟨h1, by rw [List.getElem?_eq_getElem hlt, eq_of_beq hdot]⟩
    · rename_i hdot
      exact ⟨_, _, rfl, Nat.le_refl _, hp, fun h => absurd (by rw [h]; rfl) hdot, fun h => (by cases h)⟩
  · simp only [g_ok, ok_and, ok_bind, hlt, decide_false, Bool.false_eq_true, ↓reduceIte, List.getElem?_eq_none (Nat.le_of_not_lt hlt)]
    exact ⟨_, _, rfl, Nat.le_refl _, hp, fun h => (by cases h), fun h => (by cases h)⟩

theorem numExp_ok (rest : Bytes) (pos : Nat) (hp : pos ≤ rest.length) :
    ∃ p2 e x, numExp rest pos = .ok (p2, e, x) ∧ pos ≤ p2 ∧ p2 ≤ rest.length := by
  -- the digits after the `e` and its optional sign
  have digits : ∀ q, pos < q → q ≤ rest.length → ∃ p2 e x, (do
      let k := spn isDigit (← sliceFrom rest q)
      pure (q + k, true, k != 0) : M (Nat × Bool × Bool)) = .ok (p2, e, x) ∧ pos ≤ p2 ∧ p2 ≤ rest.length := fun q h1 h2 => by
    have hk := spn_drop_le isDigit rest q
    simp only [sliceFrom_ok rest q h2, ok_bind]
    exact ⟨_, _, _, rfl, by omega, by omega⟩
  unfold numExp
  split
  · rename_i hlt
    simp only [at'_ok hlt, ok_bind]
    split
    · split
      · rename_i hlt2
        simp only [at'_ok hlt2, ok_bind]
        split
        · exact digits (pos + 1 + 1) (by omega) (by omega)
        · exact digits (pos + 1) (by omega) (by omega)
      · exact digits (pos + 1) (by omega) (by omega)
    · exact ⟨_, _, _, rfl, Nat.le_refl _, hp⟩
  · exact ⟨_, _, _, rfl, Nat.le_refl _, hp⟩

theorem numSuffix_ok (rest : Bytes) (pos : Nat) (hp : pos ≤ rest.length) :
    ∃ p3, numSuffix rest pos = .ok p3 ∧ pos ≤ p3 ∧ p3 ≤ rest.length := by
  have stay : ∃ p3, (pure pos : M Nat) = .ok p3 ∧ pos ≤ p3 ∧ p3 ≤ rest.length := ⟨_, rfl, Nat.le_refl _, hp⟩
  unfold numSuffix
  split
  · rename_i hlt
    have step : ∃ p3, (pure (pos + 1) : M Nat) = .ok p3 ∧ pos ≤ p3 ∧ p3 ≤ rest.length := ⟨_, rfl, by omega, by omega⟩
    simp only [at'_ok hlt, ok_bind]
    split
    · split
      · exact step
      · rename_i hne
        have hlt2 : pos + 1 < rest.length := by
          have : ¬ (pos + 1 = rest.length) := by simpa using hne
          omega
        simp only [at'_ok hlt2, ok_bind]
        split
        · exact step
        · split
          · exact step
          · exact stay
    · exact stay
  · exact stay

theorem spn_zero (p : UInt8 → Bool) (rest : Bytes) (c : UInt8) (h0 : rest[0]? = some c) (hp : p c = false) : spn p rest = 0 := by
  cases rest with
  | nil => rfl
  | cons x xs => cases Option.some.inj h0; simp [spn, hp]

theorem parseNumber_lexes (rest : Bytes) (c : UInt8) (h0 : rest[0]? = some c) (hc : isDigit c = true ∨ c = 46) :
    Lexes rest (parseNumber rest) := by
  obtain ⟨hl, hc0⟩ := List.getElem?_eq_some_iff.mp h0
  unfold parseNumber
  obtain ⟨od, hds, hds2⟩ := numDigitSet_ok rest c
  simp only [at'_ok hl, hc0, hds, ok_bind]
  cases od with
  | some ds => exact numPrefixed_lexes ds rest (hds2 rfl)
  | none =>
    obtain ⟨p1, d, h1, a1, a2, a3, a4⟩ := numDot_ok rest (spn isDigit rest) (spn_le isDigit rest)
    simp only [h1, ok_bind]
    -- after the dot stage at least one byte has been read: a digit, or the dot itself
    have hp1 : 1 ≤ p1 := by
      rcases hc with hc | rfl
      · have := spn_pos isDigit rest c h0 hc; omega
      · rw [spn_zero isDigit rest 46 h0 (by decide)] at a3
        exact a3 h0
    cases d with
    | true =>
      obtain ⟨b1, b3⟩ := a4 rfl
      simp only [↓reduceIte]
      rw [assign_first b3, b1]
      exact assign_lexes 0 1 (by omega)
    | false =>
      obtain ⟨p2, e, x, h2, c1, c2⟩ := numExp_ok rest p1 a2
      obtain ⟨p3, h3, d1, d2⟩ := numSuffix_ok rest p2 c2
      simp only [Bool.false_eq_true, ↓reduceIte, h2, h3, ok_bind]
      exact .ite (assign_lexes 0 p3 (by omega)) (assign_lexes 0 p3 (by omega))

/-- what the dispatch table guarantees about the first byte handed to each lexer -/
def dispatchFact (c : UInt8) : Bool :=
  match dispatch c with
  | .hash => c == 35
  | .dash => c == 45
  | .money => c == 36
  | .string => c != 92
  | .word | .ustring | .qstring | .nqstring | .xstring | .bstring | .estring => notWordAccept c
  | .number => isDigit c || c == 46
  | .unknown => false
  | .byte => isClassU8 c && c != 102 && c != 99
  | _ => true

/-- table fact, re-checked against the regenerated dispatch table on every build -/
theorem dispatch_facts_table : (List.range 256).all (fun n => dispatchFact n.toUInt8) = true := by decide +kernel

theorem dispatch_facts (c : UInt8) : dispatchFact c = true := forall_byte dispatchFact dispatch_facts_table c

theorem runP_ok (flags : Nat) (rest : Bytes) (c : UInt8) (h0 : rest[0]? = some c) :
    Lexes rest (runP flags rest (dispatch c)) := by
  have hne := ne_nil_of_first h0
  have hf := dispatch_facts c
  unfold dispatchFact at hf
  unfold runP
  cases hd : dispatch c <;> simp only [hd] at hf ⊢
  case white => exact parseWhite_lexes rest hne
  case op1 => exact parseOperator1_lexes rest hne
  case op2 => exact parseOperator2_lexes rest hne
  case other => exact parseOther_lexes rest hne
  case byte =>
    simp only [Bool.and_eq_true, bne_iff_ne, ne_eq] at hf
    exact parseByte_lexes rest c h0 ⟨Or.inr hf.1.1, hf.1.2, hf.2⟩
  case hash => exact parseHash_lexes flags rest (eq_of_beq hf ▸ h0)
  case dash => exact parseDash_lexes flags rest (eq_of_beq hf ▸ h0)
  case slash => exact parseSlash_lexes rest hne
  case backslash => exact parseBackSlash_lexes rest hne
  case string => exact parseString_lexes {} rest c h0 (by simpa using hf)
  case word => exact parseWord_lexes rest c h0 hf
  case var => exact parseVar_lexes rest hne
  case number => exact parseNumber_lexes rest c h0 (by simpa using hf)
  case tick => exact parseTick_lexes {} rest hne
  case ustring => exact parseUString_lexes rest c h0 hf
  case qstring => exact parseQStringCore_lexes rest 0 c h0 hf
  case nqstring => exact parseNqString_lexes rest c h0 hf
  case xstring => exact parseXBString_lexes _ rest c h0 hf
  case bstring => exact parseXBString_lexes _ rest c h0 hf
  case estring => exact parseEString_lexes rest c h0 hf
  case bword => exact parseBWord_lexes rest hne
  case money => exact parseMoney_lexes rest (eq_of_beq hf ▸ h0)
  case unknown => cases hf
end LibInj.Sqli
