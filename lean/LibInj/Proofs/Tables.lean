import LibInj.Sqli.Keyword
import LibInj.Gen.Xss
import LibInj.Gen.SqliConsts
/-! Boolean checkers over the regenerated tables and the lemmas that lift them to statements.
The checkers are evaluated by the kernel (`decide +kernel`) on every build. -/
namespace LibInj.Tables

abbrev Entry := Nat × Nat × Nat

/-! Checkers are written for the kernel's evaluator: only GMP-accelerated `Nat` primitives
(`Nat.beq`, `Nat.ble`, `%`, `/`, `&&&`, `>>>`) and short structural recursions. (Measured:
`List.contains` over a 27-element list costs ~1.5 ms per entry in the kernel, a bit test ~10 µs.) -/

/-- bytes of a base-256 key, given its length (most significant first) -/
def keyBytes : Nat → Nat → List Nat
  | 0, _ => []
  | l+1, n => keyBytes l (n / 256) ++ [n % 256]

/-- the documented class characters (sqli_const.go) -/
def classAlphabet : List Nat :=
  [107, 85, 66, 69, 116, 102, 110, 49, 118, 115, 111, 38, 99, 65, 40, 41, 123, 125, 46, 44, 58, 59, 84, 63, 88, 70, 92]

def upperNat (b : Nat) : Nat := if 97 ≤ b && b ≤ 122 then b - 32 else b

def maskOf (l : List Nat) : Nat := l.foldl (fun m c => m ||| (1 <<< c)) 0

def classMask : Nat := maskOf classAlphabet
/-- bit set of the class characters as they appear inside a fingerprint key (upper-cased) -/
def classMaskUpper : Nat := maskOf (classAlphabet.map upperNat)

def bitTest (mask v : Nat) : Bool := Nat.beq ((mask >>> v) &&& 1) 1

def isClass (v : Nat) : Bool := bitTest classMask v
def isClassUpper (v : Nat) : Bool := bitTest classMaskUpper v

/-- an ASCII byte that is not a lower-case letter: its own image under the case-folding look-up -/
def upFree (b : Nat) : Bool := Nat.blt b 128 && !(Nat.ble 97 b && Nat.ble b 122)

/-- the `l` bytes of `n` all satisfy `p`, and `n < 256^l` -/
def bytesAll (p : Nat → Bool) : Nat → Nat → Bool
  | 0, n => Nat.beq n 0
  | l+1, n => p (n % 256) && bytesAll p l (n / 256)

/-- the low `k` bytes are (upper-cased) class characters and what remains is the byte `0` -/
def fpBytes : Nat → Nat → Bool
  | 0, n => Nat.beq n 48
  | k+1, n => isClassUpper (n % 256) && fpBytes k (n / 256)

/-- none of the `k` low bytes is `b` -/
def noByte (b : Nat) : Nat → Nat → Bool
  | 0, _ => true
  | k+1, n => !(Nat.beq (n % 256) b) && noByte b k (n / 256)

/-- well-formedness of one keyword-table entry (C20): 1..31 bytes, every byte ASCII and not lower
case (so the key is the image of itself under the case-folding look-up and can be found), the value a
class character, a fingerprint key is `0` + 1..5 class characters, a function name has >= 2 bytes -/
def kwOK (e : Entry) : Bool :=
  Nat.ble 1 e.1 && Nat.ble e.1 31 && bytesAll upFree e.1 e.2.1 && isClass e.2.2 &&
  (!(Nat.beq e.2.2 70) || (Nat.ble 2 e.1 && Nat.ble e.1 6 && fpBytes (e.1 - 1) e.2.1)) &&
  (!(Nat.beq e.2.2 102) || Nat.ble 2 e.1)

/-- the comment class `C` (upper-cased `c`) occurs only in last position of a fingerprint key -/
def commentOnlyLast (e : Entry) : Bool :=
  !(Nat.beq e.2.2 70) || noByte 67 (e.1 - 1) (e.2.1 / 256)

def upperNulFree (s : List UInt8) : Bool := s.all (fun c => c != 0 && !(97 ≤ c && c ≤ 122)) && !s.isEmpty

def keyEq (b c : Entry) : Bool := Nat.beq b.1 c.1 && Nat.beq b.2.1 c.2.1

/-- linear merge: every entry of the (sorted) baseline occurs in the (sorted) current table with the same value -/
def subMerge : List Entry → List Entry → Bool
  | bs, [] => bs.isEmpty
  | bs, c :: cs =>
    match bs with
    | [] => true
    | b :: bs' => if keyEq b c then (Nat.beq b.2.2 c.2.2 && subMerge bs' cs) else subMerge bs cs

theorem subMerge_sound : ∀ (cs bs : List Entry), subMerge bs cs = true → ∀ e ∈ bs, e ∈ cs
  | [], bs, h, e, he => by
    simp only [subMerge, List.isEmpty_iff] at h
    subst h; cases he
  | c :: cs, [], _, e, he => by cases he
  | c :: cs, b :: bs, h, e, he => by
    simp only [subMerge] at h
    split at h
    · rename_i hk
      simp only [keyEq, Bool.and_eq_true] at hk h
      rcases List.mem_cons.mp he with rfl | he'
      · have : e = c := by
          rcases e with ⟨e1, e2, e3⟩; rcases c with ⟨c1, c2, c3⟩
          simp_all
        simp [this]
      · exact List.mem_cons_of_mem _ (subMerge_sound cs bs h.2 e he')
    · exact List.mem_cons_of_mem _ (subMerge_sound cs (b :: bs) h e he)

theorem lookupIn_of_mem : ∀ (l : List Entry), Sqli.strictSorted l = true → ∀ a b v, (a, b, v) ∈ l →
    Sqli.lookupIn l a b = some v
  | [], _, _, _, _, h => by cases h
  | (l', n', v') :: t, hs, a, b, v, hm => by
    simp only [Sqli.lookupIn]
    rcases List.mem_cons.mp hm with heq | hm'
    · cases heq; simp
    · have hlt := Sqli.strictSorted_head_lt t (l', n', v') hs (a, b, v) hm'
      have hne : ¬ (a = l' ∧ b = n') := by
        unfold Sqli.keyLt at hlt; simp only at hlt; omega
      have := Sqli.beq_key_false hne
      simp only [this, Bool.false_eq_true, ↓reduceIte]
      exact lookupIn_of_mem t (Sqli.strictSorted_tail t _ hs) a b v hm'

def namedSub (base cur : List (List UInt8 × Nat)) : Bool := base.all cur.contains
def tagsSub (base cur : List (List UInt8)) : Bool := base.all cur.contains

end LibInj.Tables
