import LibInj.Bytes
/-! Meaning of the search primitives: `indexByte` / `indexOf` return the *first* occurrence. -/
namespace LibInj

theorem indexByte_none_iff (s : Bytes) (c : UInt8) : indexByte s c = none ↔ c ∉ s := by
  induction s with
  | nil => simp [indexByte]
  | cons x xs ih =>
    by_cases h : (x == c) = true
    · have : x = c := by simpa using h
      simp [indexByte, this]
    · have hne : x ≠ c := by simpa using h
      have h' : (x == c) = false := by simpa using h
      simp only [indexByte, h', Bool.false_eq_true, ↓reduceIte, Option.map_eq_none_iff, ih, List.mem_cons, not_or]
      exact ⟨fun hh => ⟨fun e => hne e.symm, hh⟩, fun hh => hh.2⟩

theorem indexByte_some_iff (s : Bytes) (c : UInt8) (i : Nat) :
    indexByte s c = some i ↔ (s[i]? = some c ∧ ∀ j < i, s[j]? ≠ some c) := by
  induction s generalizing i with
  | nil => simp [indexByte]
  | cons x xs ih =>
    by_cases h : (x == c) = true
    · have hx : x = c := by simpa using h
      simp only [indexByte, h, ↓reduceIte, Option.some.injEq]
      constructor
      · intro hi; subst hi; simp [hx]
      · intro ⟨h1, h2⟩
        cases i with
        | zero => rfl
        | succ i => exact absurd (by simp [hx]) (h2 0 (by omega))
    · have hne : x ≠ c := by simpa using h
      have h' : (x == c) = false := by simpa using h
      simp only [indexByte, h', Bool.false_eq_true, ↓reduceIte]
      cases i with
      | zero => simp [hne]
      | succ i =>
        simp only [Option.map_eq_some_iff, Nat.add_right_cancel_iff, exists_eq_right, ih i, List.getElem?_cons_succ]
        constructor
        · intro ⟨h1, h2⟩
          refine ⟨h1, fun j hj => ?_⟩
          cases j with
          | zero => simp [hne]
          | succ j => simpa using h2 j (by omega)
        · intro ⟨h1, h2⟩
          exact ⟨h1, fun j hj => by simpa using h2 (j+1) (by omega)⟩

theorem indexByte_lt {s : Bytes} {c : UInt8} {i : Nat} (h : indexByte s c = some i) : i < s.length := by
  have := ((indexByte_some_iff s c i).mp h).1
  rcases Nat.lt_or_ge i s.length with h' | h'
  · exact h'
  · simp [List.getElem?_eq_none h'] at this

/-- reading `t ++ s` past `t` -/
theorem getElem?_append_add (t s : Bytes) (k : Nat) : (t ++ s)[t.length + k]? = s[k]? := by
  rw [List.getElem?_append_right (Nat.le_add_right _ _), Nat.add_sub_cancel_left]

/-- `List.drop_append_of_le_length` with explicit arguments, so that `by omega` can discharge `h` under `rw` -/
theorem drop_append_le (a y : Bytes) (p : Nat) (h : p ≤ a.length) : (a ++ y).drop p = a.drop p ++ y :=
  List.drop_append_of_le_length h

theorem indexByte_append (c : UInt8) (s : Bytes) : ∀ (t : Bytes), c ∉ t →
    indexByte (t ++ s) c = (indexByte s c).map (· + t.length)
  | [], _ => by simp
  | x :: t, h => by
    have hx : (x == c) = false := by
      rw [beq_eq_false_iff_ne]; intro e; exact h (by rw [e]; simp)
    have ht : c ∉ t := fun hm => h (by simp [hm])
    have e : indexByte (x :: (t ++ s)) c = if x == c then some 0 else (indexByte (t ++ s) c).map (· + 1) := rfl
    show indexByte (x :: (t ++ s)) c = _
    rw [e, hx, indexByte_append c s t ht]
    cases indexByte s c with
    | none => rfl
    | some i => simp [Nat.add_assoc]

theorem indexByte_first (p : Bytes) (c : UInt8) (r : Bytes) (hp : c ∉ p) : indexByte (p ++ c :: r) c = some p.length := by
  rw [indexByte_append c _ p hp]
  simp [indexByte]

/-- a first occurrence inside `x` does not depend on what follows `x` -/
theorem indexByte_pre (c : UInt8) (x y y' : Bytes) (i : Nat) (hi : indexByte (x ++ y) c = some i) (hl : i < x.length) :
    indexByte (x ++ y') c = some i := by
  rw [indexByte_some_iff] at hi ⊢
  refine ⟨?_, fun j hj => ?_⟩
  · rw [List.getElem?_append_left hl, ← List.getElem?_append_left (l₂ := y) hl]; exact hi.1
  · rw [List.getElem?_append_left (by omega), ← List.getElem?_append_left (l₂ := y) (by omega)]; exact hi.2 j hj

/-- what `indexByte` skips cannot be the start of anything that starts with the byte searched for -/
theorem indexByte_skip {s : Bytes} {c : UInt8} {Q : Nat → Prop} (hQ : ∀ i, Q i → s[i]? = some c) (pos : Nat) :
    (indexByte (s.drop pos) c = none → ∀ i, pos ≤ i → ¬ Q i) ∧
    (∀ k, indexByte (s.drop pos) c = some k → s[pos + k]? = some c ∧ ∀ j, pos ≤ j → j < pos + k → ¬ Q j) := by
  refine ⟨fun hi i hpi hq => (indexByte_none_iff _ _).mp hi ?_, fun k hi => ?_⟩
  · have := hQ i hq
    rw [← Nat.add_sub_cancel' hpi, ← List.getElem?_drop] at this
    exact List.mem_of_getElem? this
  · obtain ⟨hat, hnone⟩ := (indexByte_some_iff _ _ _).mp hi
    rw [List.getElem?_drop] at hat
    refine ⟨hat, fun j h1 h2 hq => hnone (j - pos) (by omega) ?_⟩
    rw [List.getElem?_drop, Nat.add_sub_cancel' h1]
    exact hQ j hq

theorem indexOf_some_iff (h n : Bytes) (i : Nat) :
    indexOf h n = some i ↔ (i ≤ h.length ∧ isPrefix n (h.drop i) = true ∧ ∀ j < i, isPrefix n (h.drop j) = false) := by
  induction h generalizing i with
  | nil =>
    unfold indexOf
    by_cases hp : isPrefix n [] = true
    · simp only [hp, ↓reduceIte, Option.some.injEq, List.length_nil, Nat.le_zero_eq, List.drop_nil]
      constructor
      · intro h0; subst h0; simp
      · intro ⟨h0, _, _⟩; exact h0.symm
    · simp [hp]
  | cons x t ih =>
    unfold indexOf
    by_cases hp : isPrefix n (x :: t) = true
    · simp only [hp, ↓reduceIte, Option.some.injEq]
      constructor
      · intro h0; subst h0; simp [hp]
      · intro ⟨_, _, h3⟩
        cases i with
        | zero => rfl
        | succ i => have := h3 0 (by omega); simp [hp] at this
    · have hp' : isPrefix n (x :: t) = false := by simpa using hp
      simp only [hp', Bool.false_eq_true, ↓reduceIte]
      cases i with
      | zero => simp [hp']
      | succ i =>
        simp only [Option.map_eq_some_iff, Nat.add_right_cancel_iff, exists_eq_right, ih i, List.length_cons,
          Nat.add_le_add_iff_right, List.drop_succ_cons]
        constructor
        · intro ⟨h1, h2, h3⟩
          refine ⟨h1, h2, fun j hj => ?_⟩
          cases j with
          | zero => simpa using hp'
          | succ j => simpa using h3 j (by omega)
        · intro ⟨h1, h2, h3⟩
          exact ⟨h1, h2, fun j hj => by simpa using h3 (j+1) (by omega)⟩

theorem indexOf_le {h n : Bytes} {i : Nat} (hi : indexOf h n = some i) : i ≤ h.length :=
  ((indexOf_some_iff h n i).mp hi).1

theorem spn_le (p : UInt8 → Bool) (s : Bytes) : spn p s ≤ s.length := by
  induction s with
  | nil => simp [spn]
  | cons x xs ih => simp only [spn]; split <;> simp <;> omega

theorem at'_ok {s : Bytes} {i : Nat} (h : i < s.length) : at' s i = .ok s[i] := by
  simp [at', List.getElem?_eq_getElem h]

theorem slice_ok (s : Bytes) (a b : Nat) (h1 : a ≤ b) (h2 : b ≤ s.length) :
    slice s a b = .ok ((s.drop a).take (b - a)) := by
  simp [slice, h1, h2]

end LibInj
