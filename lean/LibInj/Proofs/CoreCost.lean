import LibInj.Proofs.StringCore
import LibInj.Proofs.Index
/-! C09, cost model of the closing-quote search (`parseStringCore`, the function whose two quadratic defects D4 / D5 the
property names): a twin of `coreLoop` that also counts the bytes it examines — `IndexByte` looks at every byte up to
and including the delimiter it finds, the escape test looks at the backslashes immediately before that delimiter and at
the byte that ends their run, the doubled-delimiter test at one more byte. The twin computes the same result
(`coreLoopW_erase`) and examines at most `3·|content| + 3` bytes (`coreLoopW_linear`): the search only moves forward and
the backslash run it counts lies inside the segment `IndexByte` has just crossed, because the byte before the segment is
the previous candidate delimiter, not a backslash. -/
namespace LibInj.Sqli
open LibInj

/-- `coreLoop` with a work counter -/
def coreLoopW (content : Bytes) (d : UInt8) (k : Nat) : Nat → M (Option Nat × Nat)
  | 0 => .error .fuel
  | fuel + 1 =>
    match indexByte (content.drop k) d with
    | none => .ok (none, content.length - k)
    | some i =>
      let q := k + i
      let w := (i + 1) + (trailingBs (content.take q) + 1) + 1
      if isBackslashEscaped (content.take q) then (coreLoopW content d (q + 1) fuel).map (fun r => (r.1, r.2 + w))
      else if content[q + 1]? = some d then (coreLoopW content d (q + 2) fuel).map (fun r => (r.1, r.2 + w))
      else .ok (some q, w)

theorem coreLoopW_erase (content : Bytes) (d : UInt8) : ∀ (fuel k : Nat),
    (coreLoopW content d k fuel).map (·.1) = coreLoop content d k fuel
  | 0, _ => rfl
  | fuel + 1, k => by
    unfold coreLoopW coreLoop
    cases indexByte (content.drop k) d with
    | none => rfl
    | some i =>
      simp only []
      split
      · rw [← coreLoopW_erase content d fuel (k + i + 1)]
        cases coreLoopW content d (k + i + 1) fuel <;> rfl
      · split
        · rw [← coreLoopW_erase content d fuel (k + i + 2)]
          cases coreLoopW content d (k + i + 2) fuel <;> rfl
        · rfl

theorem trailingBs_take_le (content : Bytes) (k : Nat) (hinv : k = 0 ∨ ∃ c, content[k - 1]? = some c ∧ c ≠ 92) :
    ∀ i, k + i ≤ content.length → trailingBs (content.take (k + i)) ≤ i
  | 0, _ => by
    rcases hinv with rfl | ⟨c, hc, hne⟩
    · exact Nat.le_refl 0
    · by_cases hk : k = 0
      · subst hk; exact Nat.le_refl 0
      · obtain ⟨hlt, e⟩ := List.getElem?_eq_some_iff.mp hc
        rw [Nat.add_zero, show k = k - 1 + 1 by omega, List.take_succ_eq_append_getElem hlt, trailingBs_snoc, e]
        simp [hne]
  | i + 1, h => by
    have ih := trailingBs_take_le content k hinv i (by omega)
    rw [← Nat.add_assoc, List.take_succ_eq_append_getElem (by omega), trailingBs_snoc]
    split <;> omega

/-- **linear work**: from offset `k` (the start of the content, or right after a candidate delimiter) the search examines
at most `3·(|content| − k) + 3` bytes -/
theorem coreLoopW_work (content : Bytes) (d : UInt8) (hd : d ≠ 92) : ∀ (fuel k : Nat) (r : Option Nat × Nat),
    k ≤ content.length → (k = 0 ∨ content[k - 1]? = some d) → coreLoopW content d k fuel = .ok r →
    r.2 ≤ 3 * (content.length - k) + 3
  | 0, _, _, _, _, h => by cases h
  | fuel + 1, k, r, hk, hinv, h => by
    unfold coreLoopW at h
    cases hi : indexByte (content.drop k) d with
    | none =>
      rw [hi] at h
      simp only [Except.ok.injEq] at h
      subst h; simp only; omega
    | some i =>
      rw [hi] at h
      simp only [] at h
      have hlt := indexByte_lt hi
      simp only [List.length_drop] at hlt
      have hqd : content[k + i]? = some d := by
        have := ((indexByte_some_iff _ _ _).mp hi).1
        rwa [List.getElem?_drop] at this
      -- the backslash run lies inside the segment just crossed
      have hbs := trailingBs_take_le content k (hinv.imp id fun h => ⟨d, h, hd⟩) i (by omega)
      split at h
      · cases hrec : coreLoopW content d (k + i + 1) fuel with
        | error e => rw [hrec] at h; cases h
        | ok r' =>
          rw [hrec] at h
          simp only [Except.map, Except.ok.injEq] at h
          subst h
          have ih := coreLoopW_work content d hd fuel (k + i + 1) r' (by omega) (Or.inr (by simpa using hqd)) hrec
          simp only
          omega
      · split at h
        · rename_i _ hdd
          have hlt2 : k + i + 1 < content.length := (List.getElem?_eq_some_iff.mp hdd).1
          cases hrec : coreLoopW content d (k + i + 2) fuel with
          | error e => rw [hrec] at h; cases h
          | ok r' =>
            rw [hrec] at h
            simp only [Except.map, Except.ok.injEq] at h
            subst h
            have ih := coreLoopW_work content d hd fuel (k + i + 2) r' (by omega) (Or.inr (by simpa using hdd)) hrec
            simp only
            omega
        · simp only [Except.ok.injEq] at h
          subst h
          simp only
          omega

/-- **C09, cost model of the string scanner**: the whole closing-quote search examines at most `3·|content| + 3` bytes -/
theorem coreLoopW_linear (content : Bytes) (d : UInt8) (hd : d ≠ 92) :
    ∃ r, coreLoopW content d 0 (content.length + 1) = .ok r ∧ r.1 = Spec.closingQuote content d ∧ r.2 ≤ 3 * content.length + 3 := by
  have he := coreLoopW_erase content d (content.length + 1) 0
  rw [coreLoop_spec content d hd] at he
  cases hr : coreLoopW content d 0 (content.length + 1) with
  | error e => rw [hr] at he; cases he
  | ok r =>
    rw [hr] at he
    simp only [Except.map, Except.ok.injEq] at he
    have := coreLoopW_work content d hd (content.length + 1) 0 r (Nat.zero_le _) (Or.inl rfl) hr
    exact ⟨r, rfl, he, by omega⟩

end LibInj.Sqli
