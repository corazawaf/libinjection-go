import LibInj.Sqli.Check
import LibInj.Spec.SqliGrammar2
/-! C03: what the kernel evaluates per member and per skeleton of the canonical grammar. Only the model
and the grammar are imported, so the evaluations (`Proofs/GrammarEval/*`) depend on no proof. -/
namespace LibInj.Sqli
open LibInj LibInj.Spec.SqliGrammar

def isDetected : M (Bool × Bytes) → Bool | .ok (true, _) => true | _ => false

/-- per member: the model reports SQLi, and no `sp_password` in any letter case -/
def fires (s : Bytes) : Bool := isDetected (isSQLi s) && !contains (s.map lowerAscii) spPassword

/-- every prefix with every tail, words one space apart -/
def tailsOK (prefs : List Bytes) (sk : List Bytes) : Bool :=
  prefs.all fun p => tails.all fun t => fires (render p sk [32] t)

/-- every prefix with every separator, no tail -/
def sepsOK (prefs : List Bytes) (sk : List Bytes) : Bool :=
  prefs.all fun p => seps.all fun sp => fires (render p sk sp [])

def skel (k : Nat) : List Bytes := (skeletons[k]?).getD []

def pskel (k : Nat) : List Bytes := (parenSkeletons[k]?).getD []

end LibInj.Sqli
