import LibInj.Proofs.H5Case
import LibInj.Proofs.FoldOK
import LibInj.Proofs.FingerprintOK
import LibInj.Proofs.CaseAttr
/-! C10: every stage of `isSQLi` commutes with ASCII lower-casing of the input and of the token values
(`f (L x) = (f x).map lower`), outside the positions where a lexer compares a letter case-sensitively.

`simp` does not rewrite the `Decidable` instance of an `if`: where a test reads a lower-cased token, the two sides
print alike after `simp only [lcase]` and differ in that instance only, and the proof ends with `rfl`. -/
namespace LibInj.Sqli
open LibInj LibInj.H5

def lowerTok (t : Token) : Token := { t with val := L t.val }
def lowerS (s : State) : State := { s with input := L s.input, tv := s.tv.map lowerTok }
def lowerF (f : FS) : FS := { f with s := lowerS f.s, lastComment := lowerTok f.lastComment }
def lowerLex (r : Lex) : Lex := { r with tok := lowerTok r.tok }

@[simp, lcase] theorem lowerTok_len (t : Token) : (lowerTok t).len = t.len := rfl
@[simp, lcase] theorem lowerTok_cat (t : Token) : (lowerTok t).cat = t.cat := rfl
@[simp, lcase] theorem lowerTok_val (t : Token) : (lowerTok t).val = L t.val := rfl
@[simp, lcase] theorem lowerTok_pos (t : Token) : (lowerTok t).pos = t.pos := rfl
@[lcase] theorem lowerTok_count (t : Token) : (lowerTok t).count = t.count := rfl
@[lcase] theorem lowerTok_strOpen (t : Token) : (lowerTok t).strOpen = t.strOpen := rfl
@[lcase] theorem lowerTok_strClose (t : Token) : (lowerTok t).strClose = t.strClose := rfl
@[lcase] theorem lowerTok_mk (p l n : Nat) (c o e : UInt8) (v : Bytes) : lowerTok ⟨p, l, n, c, o, e, v⟩ = ⟨p, l, n, c, o, e, L v⟩ := rfl
@[simp, lcase] theorem lowerLex_tok (r : Lex) : (lowerLex r).tok = lowerTok r.tok := rfl
@[lcase] theorem lowerLex_next (r : Lex) : (lowerLex r).next = r.next := rfl
@[lcase] theorem lowerLex_ddx (r : Lex) : (lowerLex r).ddx = r.ddx := rfl
@[lcase] theorem lowerLex_hash (r : Lex) : (lowerLex r).hash = r.hash := rfl
@[lcase] theorem lowerLex_mk (t : Token) (n d h : Nat) : lowerLex ⟨t, n, d, h⟩ = ⟨lowerTok t, n, d, h⟩ := rfl
@[simp, lcase] theorem lowerS_pos (s : State) : (lowerS s).pos = s.pos := rfl
@[simp, lcase] theorem lowerS_input (s : State) : (lowerS s).input = L s.input := rfl
@[simp, lcase] theorem lowerS_flags (s : State) : (lowerS s).flags = s.flags := rfl
@[simp, lcase] theorem lowerS_cur (s : State) : (lowerS s).cur = s.cur := rfl
@[simp, lcase] theorem lowerS_toks (s : State) : (lowerS s).toks = s.toks := rfl
@[simp, lcase] theorem lowerF_pos (f : FS) : (lowerF f).pos = f.pos := rfl
@[simp, lcase] theorem lowerF_left (f : FS) : (lowerF f).left = f.left := rfl
@[simp, lcase] theorem lowerF_more (f : FS) : (lowerF f).more = f.more := rfl
@[simp, lcase] theorem lowerF_s (f : FS) : (lowerF f).s = lowerS f.s := rfl
@[simp, lcase] theorem lowerF_lc (f : FS) : (lowerF f).lastComment = lowerTok f.lastComment := rfl
theorem shift_lower (r : Lex) (p : Nat) : shift (lowerLex r) p = lowerLex (shift r p) := rfl

/-! ## `Except`: the laws that carry a map through a `do` block -/

attribute [lcase] ok_bind

@[lcase] theorem map_bind {α β : Type} (x : M α) (m : α → α) (f : α → M β) :
    (x.map m >>= f) = x >>= fun a => f (m a) := by
  cases x <;> rfl

@[lcase] theorem map_bind_out {α β : Type} (φ : β → β) (x : M α) (g : α → M β) :
    (x >>= g).map φ = x >>= fun a => (g a).map φ := by
  cases x <;> rfl

@[lcase] theorem map_ite {β : Type} (φ : β → β) (c : Prop) [Decidable c] (A B : M β) :
    (if c then A else B).map φ = if c then A.map φ else B.map φ := by
  split <;> rfl

@[lcase] theorem map_ok {α : Type} (m : α → α) (a : α) : (Except.ok a : M α).map m = Except.ok (m a) := rfl

@[lcase] theorem map_pure {β : Type} (φ : β → β) (b : β) : (pure b : M β).map φ = pure (φ b) := rfl

theorem ite_bind {α β : Type} (c : Prop) [Decidable c] (A B : M α) (f : α → M β) :
    ((if c then A else B) >>= f) = if c then A >>= f else B >>= f := by
  split <;> rfl

/-! The same laws as rules, one step of a `do` block at a time: `bmG`, `bmG2` carry a map over a bind (`bmG2`: the first
computation is itself mapped), `beq2` absorbs it, `iteM` carries it over an `if`. -/

theorem bmG {α β : Type} (φ : β → β) (x : M α) (f g : α → M β) (h : ∀ a, f a = (g a).map φ) :
    (x >>= f) = (x >>= g).map φ := by
  rw [map_bind_out]; exact bind_congr h

theorem bmG2 {α β : Type} (φ : β → β) (x : M α) (m : α → α) (f g : α → M β) (h : ∀ a, f (m a) = (g a).map φ) :
    (x.map m >>= f) = (x >>= g).map φ := by
  rw [map_bind]; exact bmG φ x _ g h

theorem beq2 {α β : Type} (x : M α) (m : α → α) (f g : α → M β) (h : ∀ a, f (m a) = g a) :
    (x.map m >>= f) = (x >>= g) := by
  rw [map_bind]; exact bind_congr h

theorem iteM {β : Type} (φ : β → β) (c : Prop) [Decidable c] (A B A' B' : M β) (hA : A = A'.map φ) (hB : B = B'.map φ) :
    (if c then A else B) = (if c then A' else B').map φ := by
  rw [map_ite, hA, hB]

attribute [lcase] L_length at'_L

/-! ## bytes

`q_p`: the byte class or table `p` does not tell a letter from its lower-case form. -/

theorem q_notWord (x : UInt8) : notWordAccept (lowerAscii x) = notWordAccept x := caseBlind _ (by decide +kernel) x
theorem q_notVar (x : UInt8) : notVarAccept (lowerAscii x) = notVarAccept x := caseBlind _ (by decide +kernel) x
theorem q_digit (x : UInt8) : isDigit (lowerAscii x) = isDigit x := caseBlind _ (by decide +kernel) x
theorem q_hex (x : UInt8) : mem hexDigits (lowerAscii x) = mem hexDigits x := caseBlind _ (by decide +kernel) x
theorem q_hexLU (x : UInt8) : mem hexDigitsLU (lowerAscii x) = mem hexDigitsLU x := caseBlind _ (by decide +kernel) x
theorem q_bin (x : UInt8) : mem binDigits (lowerAscii x) = mem binDigits x := caseBlind _ (by decide +kernel) x
theorem q_white (x : UInt8) : isWhite (lowerAscii x) = isWhite x := caseBlind _ (by decide +kernel) x
theorem q_bs (x : UInt8) : isBackslash (lowerAscii x) = isBackslash x := caseBlind _ (by decide +kernel) x
theorem q_money (x : UInt8) : isMoneyChar (lowerAscii x) = isMoneyChar x := caseBlind _ (by decide +kernel) x
theorem q_letter (x : UInt8) : isLetter (lowerAscii x) = isLetter x := letter_lower x
theorem q_dispatch (x : UInt8) : dispatch (lowerAscii x) = dispatch x := caseBlind _ (by decide +kernel) x

theorem q_either (a b : UInt8) (h : (List.range 26).all (fun n => (n.toUInt8 + 97 == a || n.toUInt8 + 97 == b) == (n.toUInt8 + 65 == a || n.toUInt8 + 65 == b)) = true)
    (x : UInt8) : (lowerAscii x == a || lowerAscii x == b) = (x == a || x == b) :=
  caseBlind (fun c => c == a || c == b) h x

/-! ## the primitives under lower-casing -/

theorem L_idem (s : Bytes) : L (L s) = L s := by
  simp [L, List.map_map, Function.comp_def, lower_idem]

@[lcase] theorem toUpperCmp_L (lit v : Bytes) : toUpperCmp lit (L v) = toUpperCmp lit v := by
  unfold toUpperCmp; rw [goUpper_lower]

@[lcase] theorem searchKeyword_L (w : Bytes) : searchKeyword (L w) = searchKeyword w := by
  unfold searchKeyword; rw [goUpper_lower]

@[lcase] theorem slice_L (s : Bytes) (a b : Nat) : slice (L s) a b = (slice s a b).map L := by
  unfold slice
  simp only [L_length]
  split
  · show Except.ok (((L s).drop a).take (b - a)) = Except.ok (L ((s.drop a).take (b - a)))
    rw [L_drop, L_take]
  · rfl

@[lcase] theorem sliceFrom_L (s : Bytes) (a : Nat) : sliceFrom (L s) a = (sliceFrom s a).map L := by
  unfold sliceFrom
  simp only [L_length]
  split
  · show Except.ok ((L s).drop a) = Except.ok (L (s.drop a))
    rw [L_drop]
  · rfl

@[lcase] theorem assign_L (t : Token) (cat : UInt8) (pos length : Nat) (value : Bytes) :
    assign t cat pos length (L value) = (assign t cat pos length value).map lowerTok := by
  unfold assign
  simp only [slice_L]
  cases slice value 0 (if length < tokenSize then length else tokenSize - 1) <;> rfl

@[lcase] theorem assign_lowerTok (t : Token) (cat : UInt8) (pos length : Nat) (value : Bytes) :
    assign (lowerTok t) cat pos length value = assign t cat pos length value := rfl

theorem atP_L (p : UInt8 → Bool) (hp : ∀ x, p (lowerAscii x) = p x) (rest : Bytes) (i : Nat) :
    (do let c ← at' (L rest) i; pure (p c) : M Bool) = (do let c ← at' rest i; pure (p c)) := by
  rw [at'_L]
  exact beq2 _ _ _ _ (fun c => by rw [hp])

theorem byteIs_L (rest : Bytes) (i : Nat) (k : UInt8) (hk : isLetter k = false) :
    byteIs (L rest) i k = byteIs rest i k := atP_L (· == k) (nl k hk) rest i

theorem byteNe_L (rest : Bytes) (i : Nat) (k : UInt8) (hk : isLetter k = false) :
    byteNe (L rest) i k = byteNe rest i k := atP_L (· != k) (nl_ne k hk) rest i

theorem get_L (k : UInt8) (hk : isLetter k = false) (s : Bytes) (i : Nat) : ((L s)[i]? = some k) = (s[i]? = some k) := by
  rw [L_get]
  cases s[i]? with
  | none => simp
  | some x =>
    have := nl k hk x
    rw [Bool.eq_iff_iff] at this
    simpa using this

theorem get_L_beq (rest : Bytes) (i : Nat) (k : UInt8) (hk : isLetter k = false) :
    ((L rest)[i]? == some k) = (rest[i]? == some k) := by
  rw [Bool.eq_iff_iff, beq_iff_eq, beq_iff_eq, get_L k hk]

/-- needles without letters -/
abbrev NoLetters (n : Bytes) : Prop := ∀ k ∈ n, isLetter k = false

theorem isPrefix_L : ∀ (n : Bytes), NoLetters n → ∀ (h : Bytes), isPrefix n (L h) = isPrefix n h
  | [], _, _ => by simp [isPrefix]
  | a :: n, hn, [] => by simp [isPrefix, L]
  | a :: n, hn, b :: h => by
    have e : (a == lowerAscii b) = (a == b) := by
      rw [BEq.comm, nl a (hn a (by simp)) b, BEq.comm]
    show isPrefix (a :: n) (lowerAscii b :: L h) = isPrefix (a :: n) (b :: h)
    simp only [isPrefix, e]
    rw [isPrefix_L n (fun k hk => hn k (by simp [hk])) h]

theorem indexOf_L (n : Bytes) (hn : NoLetters n) : ∀ (h : Bytes), indexOf (L h) n = indexOf h n
  | [] => by rfl
  | b :: h => by
    show indexOf (lowerAscii b :: L h) n = indexOf (b :: h) n
    unfold indexOf
    rw [show lowerAscii b :: L h = L (b :: h) from rfl, isPrefix_L n hn]
    split
    · rfl
    · exact congrArg (Option.map (· + 1)) (indexOf_L n hn h)

theorem contains_L (n : Bytes) (hn : NoLetters n) (h : Bytes) : contains (L h) n = contains h n := by
  unfold contains; rw [indexOf_L n hn]

theorem takeWhile_L (p : UInt8 → Bool) (hp : ∀ x, p (lowerAscii x) = p x) : ∀ (s : Bytes), (L s).takeWhile p = L (s.takeWhile p)
  | [] => rfl
  | a :: s => by
    show (lowerAscii a :: L s).takeWhile p = L ((a :: s).takeWhile p)
    simp only [List.takeWhile_cons, hp]
    split
    · rw [takeWhile_L p hp s]; rfl
    · rfl

theorem escaped_L (s : Bytes) : isBackslashEscaped (L s) = isBackslashEscaped s := by
  unfold isBackslashEscaped trailingBs
  rw [← List.map_reverse, takeWhile_L _ q_bs, L_length]

theorem coreLoop_L (d : UInt8) (hd : isLetter d = false) (content : Bytes) : ∀ (fuel k : Nat),
    coreLoop (L content) d k fuel = coreLoop content d k fuel
  | 0, _ => rfl
  | fuel + 1, k => by
    unfold coreLoop
    rw [L_drop, indexByte_L d (nl d hd)]
    cases indexByte (content.drop k) d with
    | none => rfl
    | some i => simp only [L_take, escaped_L, get_L d hd, coreLoop_L d hd content fuel]

theorem parseStringCore_L (t : Token) (rest : Bytes) (offset : Nat) (d : UInt8) (hd : isLetter d = false) :
    parseStringCore t (L rest) offset d = (parseStringCore t rest offset d).map lowerLex := by
  unfold parseStringCore
  simp only [lcase, coreLoop_L d hd]
  refine bind_congr fun content => bind_congr fun o => ?_
  cases o <;> simp only [lcase]

/-! ## tokens and the token vector -/

@[lcase] theorem tvGet_L (s : State) (i : Nat) : tvGet (lowerS s) i = (tvGet s i).map lowerTok := by
  unfold tvGet lowerS
  simp only [List.getElem?_map]
  cases s.tv[i]? <;> rfl

theorem tvSet_L (s : State) (i : Nat) (t : Token) : tvSet (lowerS s) i (lowerTok t) = (tvSet s i t).map lowerS := by
  unfold tvSet lowerS
  simp only [List.length_map]
  split
  · simp [Except.map, List.map_set]
  · rfl

@[lcase] theorem valOf_L (t : Token) : valOf (lowerTok t) = (valOf t).map L := slice_L _ _ _

@[lcase] theorem isUnaryOp_L (t : Token) : (lowerTok t).isUnaryOp = t.isUnaryOp := by
  unfold Token.isUnaryOp
  simp only [lcase, byteIs_L _ _ 33 (by decide), nl 43 (by decide), nl 45 (by decide), nl 33 (by decide),
    nl 126 (by decide)]

@[lcase] theorem isArithmeticOp_L (t : Token) : (lowerTok t).isArithmeticOp = t.isArithmeticOp := by
  unfold Token.isArithmeticOp
  simp only [lcase, nl 42 (by decide), nl 47 (by decide), nl 43 (by decide), nl 45 (by decide), nl 37 (by decide)]

@[lcase] theorem merge_L (a b : Token) : merge (lowerTok a) (lowerTok b) = (merge a b).map (Option.map lowerTok) := by
  unfold merge
  have e (x y : Bytes) : L x ++ [32] ++ L y = L (x ++ [32] ++ y) := by
    simp only [L, List.map_append]; rfl
  simp only [lcase, e, Option.map_some, Option.map_none]

@[lcase] theorem isIfToken_L (a b : Token) : isIfToken (lowerTok a) (lowerTok b) = isIfToken a b := by
  unfold isIfToken
  simp only [lcase, q_either 73 105 (by decide +kernel), q_either 70 102 (by decide +kernel)]

/-! ## the lexers -/

@[lcase] theorem parseOperator1_L (rest : Bytes) : parseOperator1 (L rest) = (parseOperator1 rest).map lowerLex := by
  unfold parseOperator1
  simp only [lcase]

theorem parseByte_L (rest : Bytes) (c0 : UInt8) (h0 : rest[0]? = some c0) (hc : lowerAscii c0 = c0) :
    parseByte (L rest) = (parseByte rest).map lowerLex := by
  unfold parseByte
  have e1 : at' rest 0 = .ok c0 := by simp [at', h0]
  simp only [lcase, e1, hc]

@[lcase] theorem parseEolComment_L (rest : Bytes) : parseEolComment (L rest) = (parseEolComment rest).map lowerLex := by
  unfold parseEolComment
  rw [indexByte_L 10 (nl 10 (by decide))]
  cases indexByte rest 10 <;> simp only [lcase]

theorem assign_fixed (t : Token) (cat : UInt8) (pos len : Nat) (v : Bytes) (hv : L v = v) (n d h : Nat) :
    (do let x ← assign t cat pos len v; pure (⟨lowerTok x, n, d, h⟩ : Lex)) =
    (do let x ← assign t cat pos len v; pure (⟨x, n, d, h⟩ : Lex) : M Lex) := by
  have e := assign_L t cat pos len v
  rw [hv] at e
  conv => rhs; rw [e, map_bind]

/-- `\N` is the one place where `parseBackSlash` looks at a letter -/
theorem parseBackSlash_L (rest : Bytes) (h1 : rest[1]? ≠ some 78) :
    parseBackSlash (L rest) = (parseBackSlash rest).map lowerLex := by
  unfold parseBackSlash
  have e : byteIs (L rest) 1 78 = byteIs rest 1 78 := by
    unfold byteIs
    rw [at'_L]
    unfold at'
    cases h : rest[1]? with
    | none => rfl
    | some c =>
      have hc : (c == 78) = false := by
        rw [h] at h1; simpa using h1
      have hl : (lowerAscii c == 78) = false := by
        have := forall_byte (fun c => !(lowerAscii c == 78)) (by decide +kernel) c
        simpa using this
      simp only [lcase, hc, hl]
  simp only [lcase, e]

theorem parseString_L (t : Token) (rest : Bytes) (h0 : ∀ c0, rest[0]? = some c0 → isLetter c0 = false) :
    parseString t (L rest) = (parseString t rest).map lowerLex := by
  unfold parseString
  rw [at'_L]
  unfold at'
  cases h : rest[0]? with
  | none => rfl
  | some c =>
    have hc := h0 c h
    show parseStringCore t (L rest) 1 (lowerAscii c) = _
    rw [lower_fixed_of_nonletter c hc]
    exact parseStringCore_L t rest 1 c hc

theorem splitLoop_L (rest : Bytes) (t : Token) : ∀ (fuel i : Nat),
    splitLoop (L rest) (lowerTok t) i fuel = (splitLoop rest t i fuel).map (Option.map lowerLex)
  | 0, _ => rfl
  | fuel + 1, i => by
    unfold splitLoop
    simp only [lcase, nl 46 (by decide), nl 96 (by decide), splitLoop_L rest t fuel, Option.map_some, Option.map_none]

@[lcase] theorem parseWord_L (rest : Bytes) : parseWord (L rest) = (parseWord rest).map lowerLex := by
  unfold parseWord
  simp only [lcase, spn_L _ q_notWord, splitLoop_L]
  refine bind_congr (fun t => bind_congr (fun o => ?_))
  cases o <;> simp only [lcase, Option.map_some, Option.map_none]

theorem parseTick_L (t : Token) (rest : Bytes) : parseTick t (L rest) = (parseTick t rest).map lowerLex := by
  unfold parseTick
  simp only [lcase, parseStringCore_L t rest 1 96 (by decide)]

theorem at'_some (rest : Bytes) (i : Nat) (c : UInt8) (h : at' rest i = .ok c) : rest[i]? = some c := by
  unfold at' at h
  cases hr : rest[i]? with
  | none => rw [hr] at h; cases h
  | some x => rw [hr] at h; cases h; rfl

theorem sliceFrom_eq (rest tail : Bytes) (p : Nat) (h : sliceFrom rest p = .ok tail) : tail = rest.drop p := by
  unfold sliceFrom at h
  split at h
  · cases h; rfl
  · cases h

theorem parseVar_L (rest : Bytes) : parseVar (L rest) = (parseVar rest).map lowerLex := by
  unfold parseVar
  simp only [L_length, get_L_beq rest 1 64 (by decide)]
  generalize (if (decide (1 < rest.length) && rest[1]? == some 64) = true then ((2 : Nat), (2 : Nat)) else (1, 1)) = pc
  obtain ⟨p, count⟩ := pc
  simp only [lcase, nl 96 (by decide), nl 39 (by decide), nl 34 (by decide), parseTick_L, spn_L _ q_notVar]
  split
  · cases hc : at' rest p with
    | error e => rfl
    | ok c =>
      simp only [lcase]
      split
      · rfl
      · split
        · rename_i hq
          cases hs : sliceFrom rest p with
          | error e => rfl
          | ok tail =>
            have h0 : ∀ c0, tail[0]? = some c0 → isLetter c0 = false := by
              intro c0 hc0
              rw [sliceFrom_eq _ _ _ hs, List.getElem?_drop, Nat.add_zero, at'_some _ _ _ hc] at hc0
              cases hc0
              simp only [Bool.or_eq_true, beq_iff_eq] at hq
              rcases hq with rfl | rfl <;> decide
            simp only [lcase, ← shift_lower, parseString_L _ tail h0]
        · rfl
  · rfl

theorem numPrefixed_L (ds : Bytes) (hds : ∀ x, mem ds (lowerAscii x) = mem ds x) (rest : Bytes) :
    numPrefixed ds (L rest) = (numPrefixed ds rest).map lowerLex := by
  unfold numPrefixed
  simp only [lcase, spn_L _ hds]

theorem numDigitSet_L (rest : Bytes) (c0 : UInt8) : numDigitSet (L rest) (lowerAscii c0) = numDigitSet rest c0 := by
  unfold numDigitSet
  simp only [lcase, nl 48 (by decide), q_either 88 120 (by decide +kernel), q_either 66 98 (by decide +kernel)]

theorem numDot_L (rest : Bytes) (pos : Nat) : numDot (L rest) pos = numDot rest pos := by
  unfold numDot
  simp only [lcase, byteIs_L rest pos 46 (by decide), spn_L _ q_digit]

theorem numExp_L (rest : Bytes) (pos : Nat) : numExp (L rest) pos = numExp rest pos := by
  unfold numExp
  simp only [lcase, q_either 69 101 (by decide +kernel), nl 43 (by decide), nl 45 (by decide), spn_L _ q_digit]

theorem numSuffix_L (rest : Bytes) (pos : Nat) : numSuffix (L rest) pos = numSuffix rest pos := by
  unfold numSuffix
  have e (c : UInt8) : (lowerAscii c == 100 || lowerAscii c == 68 || lowerAscii c == 102 || lowerAscii c == 70) =
      (c == 100 || c == 68 || c == 102 || c == 70) :=
    caseBlind (fun c => c == 100 || c == 68 || c == 102 || c == 70) (by decide +kernel) c
  simp only [lcase, e, q_white, nl 59 (by decide), q_either 117 85 (by decide +kernel)]

theorem numDigitSet_sets (rest : Bytes) (c0 : UInt8) (ds : Bytes) (h : numDigitSet rest c0 = .ok (some ds)) :
    ds = hexDigits ∨ ds = binDigits := by
  unfold numDigitSet at h
  split at h
  · obtain ⟨c1, _, h⟩ := bind_ok h
    split at h
    · cases h; exact Or.inl rfl
    · split at h
      · cases h; exact Or.inr rfl
      · cases h
  · cases h

theorem parseNumber_L (rest : Bytes) : parseNumber (L rest) = (parseNumber rest).map lowerLex := by
  unfold parseNumber
  simp only [lcase, numDigitSet_L, spn_L _ q_digit, numDot_L, numExp_L, numSuffix_L]
  refine bind_congr (fun c0 => ?_)
  cases hds : numDigitSet rest c0 with
  | error e => rfl
  | ok o =>
    cases o with
    | some ds =>
      rcases numDigitSet_sets rest c0 ds hds with rfl | rfl
      · exact numPrefixed_L _ q_hex rest
      · exact numPrefixed_L _ q_bin rest
    | none => simp only [lcase, assign_fixed _ _ _ _ [46] rfl]

theorem andM_true (x y : M Bool) (h : (x <&&> y) = .ok true) : x = .ok true ∧ y = .ok true := by
  cases x with
  | error e => cases h
  | ok b =>
    cases b with
    | false => cases h
    | true => exact ⟨rfl, h⟩

theorem byteIs_true (rest : Bytes) (i : Nat) (k : UInt8) (h : byteIs rest i k = .ok true) : rest[i]? = some k := by
  obtain ⟨c, hc, h⟩ := bind_ok h
  rw [at'_some _ _ _ hc, ← beq_iff_eq.mp (Except.ok.inj h)]

theorem parseUString_L (rest : Bytes) : parseUString (L rest) = (parseUString rest).map lowerLex := by
  unfold parseUString
  simp only [lcase, byteIs_L rest 1 38 (by decide), byteIs_L rest 2 39 (by decide)]
  cases hb : (g (2 < rest.length) <&&> byteIs rest 1 38 <&&> byteIs rest 2 39 : M Bool) with
  | error e => rfl
  | ok b =>
    cases b with
    | false => rfl
    | true =>
      have h2 : rest[2]? = some 39 := byteIs_true _ _ _ (andM_true _ _ (andM_true _ _ hb).2).2
      cases hs : sliceFrom rest 2 with
      | error e => rfl
      | ok tail =>
        have h0 : ∀ c0, tail[0]? = some c0 → isLetter c0 = false := by
          intro c0 hc0
          rw [sliceFrom_eq _ _ _ hs, List.getElem?_drop, Nat.add_zero, h2] at hc0
          cases hc0; decide
        simp only [lcase, shift_lower, ↓reduceIte, parseString_L _ tail h0]
        rfl

@[lcase] theorem parseEString_L (rest : Bytes) : parseEString (L rest) = (parseEString rest).map lowerLex := by
  unfold parseEString
  simp only [lcase, byteNe_L rest 1 39 (by decide), parseStringCore_L _ _ _ 39 (by decide)]

/-- the guard of `parseQStringCore` -/
def qBad (rest : Bytes) (p : Nat) : M Bool :=
  if p ≥ rest.length then pure true else do
    let c ← at' rest p
    if c != 113 && c != 81 then pure true
    else if p + 2 ≥ rest.length then pure true
    else pure ((← at' rest (p + 1)) != 39)

theorem parseQStringCore_eq (rest : Bytes) (p : Nat) : parseQStringCore rest p =
    (do let bad ← qBad rest p
        if bad then parseWord rest
        else
          let ch ← at' rest (p + 2)
          if ch < 33 then parseWord rest
          else
            let ch := qClose ch
            let tail ← sliceFrom rest (p + 3)
            match indexOf tail [ch, 39] with
            | none =>
              let t ← assign {} 115 (p + 3) (rest.length - p - 3) tail
              return { tok := { t with strOpen := 113, strClose := 0 }, next := rest.length }
            | some i =>
              let t ← assign {} 115 (p + 3) i tail
              return { tok := { t with strOpen := 113, strClose := 113 }, next := p + 3 + i + 2 }) := rfl

theorem qBad_L (rest : Bytes) (p : Nat) : qBad (L rest) p = qBad rest p := by
  unfold qBad
  have e (c : UInt8) : (lowerAscii c != 113 && lowerAscii c != 81) = (c != 113 && c != 81) :=
    caseBlind (fun c => c != 113 && c != 81) (by decide +kernel) c
  simp only [lcase, e, nl_ne 39 (by decide)]

theorem qBad_false (rest : Bytes) (p : Nat) (h : qBad rest p = .ok false) :
    (rest[p]? = some 113 ∨ rest[p]? = some 81) ∧ rest[p + 1]? = some 39 := by
  unfold qBad at h
  split at h
  · cases h
  · obtain ⟨c, h0, h⟩ := bind_ok h
    split at h
    · cases h
    · rename_i hc
      split at h
      · cases h
      · obtain ⟨c1, h1, h⟩ := bind_ok h
        have hc1 : c1 = 39 := by simpa using Except.ok.inj h
        refine ⟨?_, by rw [at'_some _ _ _ h1, hc1]⟩
        rw [at'_some _ _ _ h0]
        simp only [Bool.and_eq_true, bne_iff_ne, ne_eq, not_and, Decidable.not_not] at hc
        by_cases h113 : c = 113
        · left; rw [h113]
        · right; rw [hc h113]

theorem qClose_letter (c : UInt8) (h : isLetter c = false) : isLetter (qClose c) = false := by
  unfold qClose
  split
  · decide
  · split
    · decide
    · split
      · decide
      · split
        · decide
        · exact h

theorem parseQStringCore_L (rest : Bytes) (p : Nat)
    (hq : (rest[p]? = some 113 ∨ rest[p]? = some 81) → rest[p + 1]? = some 39 →
      ∀ c, rest[p + 2]? = some c → isLetter c = false) :
    parseQStringCore (L rest) p = (parseQStringCore rest p).map lowerLex := by
  rw [parseQStringCore_eq, parseQStringCore_eq, qBad_L]
  cases hb : qBad rest p with
  | error e => rfl
  | ok b =>
    cases b with
    | true => exact parseWord_L rest
    | false =>
      have hqb := qBad_false rest p hb
      cases hc : at' rest (p + 2) with
      | error e => simp only [lcase, hc]; rfl
      | ok ch =>
        have hch : isLetter ch = false := hq hqb.1 hqb.2 ch (at'_some _ _ _ hc)
        simp only [lcase, hc, Bool.false_eq_true, ↓reduceIte, lower_fixed_of_nonletter ch hch,
          indexOf_L [qClose ch, 39] (List.forall_mem_cons.mpr ⟨qClose_letter ch hch, by decide⟩)]
        refine ite_congr rfl (fun _ => rfl) (fun _ => bind_congr (fun tail => ?_))
        cases indexOf tail [qClose ch, 39] <;> simp only [lcase]

theorem parseXBString_L (ds : Bytes) (hds : ∀ x, mem ds (lowerAscii x) = mem ds x) (rest : Bytes) :
    parseXBString ds (L rest) = (parseXBString ds rest).map lowerLex := by
  unfold parseXBString
  simp only [lcase, byteNe_L rest _ 39 (by decide), spn_L _ hds]

theorem parseBWord_L (rest : Bytes) : parseBWord (L rest) = (parseBWord rest).map lowerLex := by
  unfold parseBWord
  rw [indexByte_L 93 (nl 93 (by decide))]
  cases indexByte rest 93 <;> simp only [lcase]

theorem spn_head_zero (p : UInt8 → Bool) (l : Bytes) (h : ∀ c, l[0]? = some c → p c = false) : spn p l = 0 := by
  cases l with
  | nil => rfl
  | cons x xs =>
    have := h x rfl
    simp [spn, this]

/-- with no letter after the `$` the tag branch, which searches for the tag as written, is not reached -/
theorem parseMoney_L (rest : Bytes) (hl : ∀ c, rest[1]? = some c → isLetter c = false) :
    parseMoney (L rest) = (parseMoney rest).map lowerLex := by
  unfold parseMoney
  simp only [lcase, byteIs_L rest 1 46 (by decide), spn_L _ q_money, spn_L _ q_letter, nl 36 (by decide),
    indexOf_L [36, 36] (by decide), assign_fixed _ _ _ _ [36] rfl]
  refine ite_congr rfl (fun _ => rfl) (fun _ => ?_)
  cases hs : sliceFrom rest 1 with
  | error e => rfl
  | ok tail1 =>
    have hz : spn isLetter tail1 = 0 := by
      apply spn_head_zero
      intro c hc
      rw [sliceFrom_eq _ _ _ hs, List.getElem?_drop] at hc
      exact hl c hc
    simp only [lcase, hz, beq_self_eq_true, ↓reduceIte]
    refine ite_congr rfl (fun _ => bind_congr (fun c1 => ite_congr rfl (fun _ => bind_congr (fun tail2 => ?_)) (fun _ => rfl)))
      (fun _ => rfl)
    cases indexOf tail2 [36, 36] <;> simp only [lcase]

/-- the positions where the lexers compare a letter case-sensitively do not occur -/
def CaseOK (inp : Bytes) : Prop :=
  (∀ i : Nat, inp[i]? = some (92 : UInt8) → inp[i + 1]? ≠ some (78 : UInt8)) ∧
  (∀ i : Nat, inp[i]? = some (36 : UInt8) → ∀ c, inp[i + 1]? = some c → isLetter c = false) ∧
  (∀ i : Nat, (inp[i]? = some (113 : UInt8) ∨ inp[i]? = some (81 : UInt8)) → inp[i + 1]? = some (39 : UInt8) →
    ∀ c, inp[i + 2]? = some c → isLetter c = false)

theorem caseOK_drop (inp : Bytes) (h : CaseOK inp) (p : Nat) : CaseOK (inp.drop p) := by
  simp only [CaseOK, List.getElem?_drop]
  exact ⟨fun i => h.1 (p + i), fun i => h.2.1 (p + i), fun i => h.2.2 (p + i)⟩

/-- what the dispatch table guarantees about the first byte of the lexers that compare it as written -/
def dispatchFirst (c : UInt8) : Bool :=
  match dispatch c with
  | .byte | .string => !isLetter c
  | .backslash => c == 92
  | .money => c == 36
  | _ => true

theorem dispatch_first (c : UInt8) : dispatchFirst c = true := forall_byte _ (by decide +kernel) c

theorem runP_L (flags : Nat) (rest : Bytes) (c0 : UInt8) (h0 : rest[0]? = some c0) (hok : CaseOK rest) :
    runP flags (L rest) (dispatch c0) = (runP flags rest (dispatch c0)).map lowerLex := by
  have hf := dispatch_first c0
  unfold dispatchFirst at hf
  cases hp : dispatch c0 <;> simp only [hp, Bool.not_eq_true', beq_iff_eq] at hf
  case white => rfl
  case op1 => exact parseOperator1_L rest
  case op2 =>
    simp only [runP, parseOperator2, lcase, byteIs_L rest 0 60 (by decide), byteIs_L rest 1 61 (by decide),
      byteIs_L rest 2 62 (by decide), nl 58 (by decide)]
  case other => simp only [runP, parseOther, lcase]
  case byte => exact parseByte_L rest c0 h0 (lower_fixed_of_nonletter c0 hf)
  case hash => simp only [runP, parseHash, lcase, assign_fixed _ _ _ _ [35] rfl]
  case dash => simp only [runP, parseDash, lcase, byteIs_L rest 1 45 (by decide), q_white, assign_fixed _ _ _ _ [45] rfl]
  case slash =>
    simp only [runP, parseSlash, lcase, byteNe_L rest 1 42 (by decide), nl 33 (by decide),
      indexOf_L [42, 47] (by decide), contains_L [47, 42] (by decide)]
  case backslash => exact parseBackSlash_L rest (hok.1 0 (by rw [h0, hf]))
  case string => exact parseString_L {} rest (fun c hc => by rw [h0] at hc; cases hc; exact hf)
  case word => exact parseWord_L rest
  case var => exact parseVar_L rest
  case number => exact parseNumber_L rest
  case tick => exact parseTick_L {} rest
  case ustring => exact parseUString_L rest
  case qstring => exact parseQStringCore_L rest 0 (hok.2.2 0)
  case nqstring => simp only [runP, parseNqString, lcase, byteIs_L rest 1 39 (by decide), parseQStringCore_L rest 1 (hok.2.2 1)]
  case xstring => exact parseXBString_L _ q_hexLU rest
  case bstring => exact parseXBString_L _ q_bin rest
  case estring => exact parseEString_L rest
  case bword => exact parseBWord_L rest
  case money => exact parseMoney_L rest (hok.2.1 0 (by rw [h0, hf]))
  case unknown => rfl

/-! ## tokenize -/

def mapTS (r : M (Bool × State)) : M (Bool × State) := r.map (fun p => (p.1, lowerS p.2))

theorem tvSet_input (s s' : State) (i : Nat) (t : Token) (h : tvSet s i t = .ok s') : s'.input = s.input := by
  rw [tvSet_eq h]

theorem tokLoop_L : ∀ (fuel : Nat) (s : State), CaseOK s.input → tokLoop (lowerS s) fuel = mapTS (tokLoop s fuel)
  | 0, _, _ => rfl
  | fuel + 1, s, hok => by
    unfold tokLoop mapTS
    simp only [lcase, q_dispatch]
    refine ite_congr rfl (fun _ => ?_) (fun _ => rfl)
    cases hs : sliceFrom s.input s.pos with
    | error e => rfl
    | ok rest =>
      simp only [lcase]
      cases hc : at' rest 0 with
      | error e => rfl
      | ok c0 =>
        have hrun := runP_L s.flags rest c0 (at'_some _ _ _ hc) (sliceFrom_eq _ _ _ hs ▸ caseOK_drop _ hok s.pos)
        simp only [lcase, hrun]
        refine bind_congr (fun r => ?_)
        rw [← lowerTok_mk, tvSet_L]
        cases hs1 : tvSet s s.cur { r.tok with pos := r.tok.pos + s.pos } with
        | error e => rfl
        | ok s1 =>
          simp only [lcase]
          refine ite_congr rfl (fun _ => rfl) (fun _ => ?_)
          exact tokLoop_L fuel { s1 with pos := s1.pos + r.next, ddx := s1.ddx + r.ddx, hash := s1.hash + r.hash }
            (by show CaseOK s1.input; rw [tvSet_input _ _ _ _ hs1]; exact hok)

theorem flag2Delim_letter (flags : Nat) : isLetter (flag2Delim flags) = false := by
  unfold flag2Delim
  split
  · decide
  · split <;> decide

theorem tokenize_L (s : State) (hok : CaseOK s.input) : tokenize (lowerS s) = mapTS (tokenize s) := by
  unfold tokenize mapTS
  simp only [lcase]
  refine ite_congr rfl (fun _ => rfl) (fun _ => ?_)
  have e0 : tvSet (lowerS s) s.cur {} = (tvSet s s.cur {}).map lowerS := tvSet_L s s.cur {}
  rw [e0]
  cases hs1 : tvSet s s.cur {} with
  | error e => rfl
  | ok s1 =>
    simp only [lcase, parseStringCore_L _ _ _ _ (flag2Delim_letter s1.flags), tvSet_L]
    rw [tokLoop_L _ s1 (by rw [tvSet_input _ _ _ _ hs1]; exact hok)]
    rfl

theorem tokLoop_input : ∀ (fuel : Nat) (s s' : State) (m : Bool), tokLoop s fuel = .ok (m, s') → s'.input = s.input
  | 0, _, _, _, h => by cases h
  | fuel + 1, s, s', m, h => by
    unfold tokLoop at h
    split at h
    · obtain ⟨rest, _, h⟩ := bind_ok h
      obtain ⟨c0, _, h⟩ := bind_ok h
      obtain ⟨r, _, h⟩ := bind_ok h
      obtain ⟨s1, hs1, h⟩ := bind_ok h
      have hin := tvSet_input _ _ _ _ hs1
      split at h
      · cases h; exact hin
      · rw [tokLoop_input fuel _ _ _ h]; exact hin
    · cases h; rfl

theorem tokenize_input (s s' : State) (m : Bool) (h : tokenize s = .ok (m, s')) : s'.input = s.input := by
  unfold tokenize at h
  split at h
  · cases h; rfl
  · obtain ⟨s1, hs1, h⟩ := bind_ok h
    have hin := tvSet_input _ _ _ _ hs1
    split at h
    · obtain ⟨r, _, h⟩ := bind_ok h
      obtain ⟨s2, hs2, h⟩ := bind_ok h
      cases h
      show s2.input = s.input
      rw [tvSet_input _ _ _ _ hs2, hin]
    · rw [tokLoop_input _ _ _ _ h, hin]

/-! ## fold -/

def lowerStep : Step → Step
  | .cont f => .cont (lowerF f)
  | .brk f => .brk (lowerF f)
  | .ret n f => .ret n (lowerF f)

def lowerTwo : Two → Two
  | .done s => .done (lowerStep s)
  | .next f => .next (lowerF f)

@[lcase] theorem lowerStep_cont (f : FS) : lowerStep (.cont f) = .cont (lowerF f) := rfl
@[lcase] theorem lowerStep_brk (f : FS) : lowerStep (.brk f) = .brk (lowerF f) := rfl
@[lcase] theorem lowerStep_ret (n : Nat) (f : FS) : lowerStep (.ret n f) = .ret n (lowerF f) := rfl
@[lcase] theorem lowerTwo_done (s : Step) : lowerTwo (.done s) = .done (lowerStep s) := rfl
@[lcase] theorem lowerTwo_next (f : FS) : lowerTwo (.next f) = .next (lowerF f) := rfl
@[lcase] theorem lowerF_mk (s : State) (p l : Nat) (m : Bool) (c : Token) :
    lowerF ⟨s, p, l, m, c⟩ = ⟨lowerS s, p, l, m, lowerTok c⟩ := rfl
@[lcase] theorem folds_L (f : FS) (k : Nat) : (lowerF f).folds k = lowerF (f.folds k) := rfl

attribute [lcase] tvSet_L

/-- `tvSet_L` for a token written out field by field -/
@[lcase] theorem tvSet_L_mk (s : State) (i p l n : Nat) (c o e : UInt8) (v : Bytes) :
    tvSet (lowerS s) i ⟨p, l, n, c, o, e, L v⟩ = (tvSet s i ⟨p, l, n, c, o, e, v⟩).map lowerS :=
  tvSet_L s i ⟨p, l, n, c, o, e, v⟩

@[lcase] theorem dec_L (f : FS) (k : Nat) : (lowerF f).dec k = (f.dec k).map lowerF := by
  unfold FS.dec sub
  simp only [lowerF_pos]
  by_cases hk : k ≤ f.pos <;> simp only [hk, ↓reduceIte] <;> rfl

/-- `dec_L` for a loop state written out field by field -/
@[lcase] theorem dec_L_mk (s : State) (p l : Nat) (m : Bool) (c : Token) (k : Nat) :
    FS.dec ⟨lowerS s, p, l, m, lowerTok c⟩ k = (FS.dec ⟨s, p, l, m, c⟩ k).map lowerF :=
  dec_L ⟨s, p, l, m, c⟩ k

theorem colons_L : ∀ (t : Bytes), (L t == [58, 58]) = (t == [58, 58])
  | [] => rfl
  | [a] => by simp [L]
  | [a, b] => by
    have ha := nl 58 (by decide) a
    have hb := nl 58 (by decide) b
    rw [Bool.eq_iff_iff] at ha hb ⊢
    simp only [beq_iff_eq] at ha hb
    simp [L, ha, hb]
  | a :: b :: c :: t => by simp [L]

theorem foldThree_L (f : FS) : foldThree (lowerF f) = (foldThree f).map lowerStep := by
  unfold foldThree
  -- the leading reads are walked by hand: `simp` goes over the body again for every `←` above it
  dsimp only [lowerF_s, lowerF_left]
  rw [tvGet_L, tvGet_L, tvGet_L]
  refine bmG2 _ _ _ _ _ fun a => bmG2 _ _ _ _ _ fun b => bmG2 _ _ _ _ _ fun c => ?_
  rw [isUnaryOp_L]
  refine bmG _ _ _ _ fun bUnary => ?_
  simp only [lcase, colons_L, ite_bind, bind_assoc, pure_bind]

theorem foldTwo_L (f : FS) : foldTwo (lowerF f) = (foldTwo f).map lowerTwo := by
  unfold foldTwo
  dsimp only [lowerF_s, lowerF_left]
  rw [tvGet_L, tvGet_L]
  refine bmG2 _ _ _ _ _ fun a => bmG2 _ _ _ _ _ fun b => ?_
  rw [isUnaryOp_L]
  refine bmG _ _ _ _ fun bUnary => ?_
  simp only [lcase, indexByte_L 95 (nl 95 (by decide))]
  refine ite_congr rfl (fun _ => rfl) fun _ => ?_
  refine ite_congr rfl (fun _ => rfl) fun _ => ?_
  refine ite_congr rfl (fun _ => rfl) fun _ => ?_
  refine ite_congr rfl (fun _ => rfl) fun _ => ?_
  refine bind_congr fun o => ?_
  cases o <;> simp only [lcase, Option.map_some, Option.map_none] <;> rfl

theorem special5_L (s : State) : special5 (lowerS s) = special5 s := by
  unfold special5
  simp only [lcase]

theorem foldSpecial_L (f : FS) : foldSpecial (lowerF f) = (foldSpecial f).map lowerF := by
  unfold foldSpecial
  simp only [lcase, special5_L]

theorem fetch_L (k : Nat) : ∀ (fuel : Nat) (f : FS), CaseOK f.s.input →
    fetch (lowerF f) k fuel = (fetch f k fuel).map lowerF
  | 0, _, _ => rfl
  | fuel + 1, f, hok => by
    unfold fetch
    simp only [lowerF_pos, lowerF_left, lowerF_more, lowerF_s]
    refine iteM _ _ _ _ _ _ ?_ rfl
    rw [show tokenize { lowerS f.s with cur := f.pos } = _ from tokenize_L { f.s with cur := f.pos } hok]
    cases ht : tokenize { f.s with cur := f.pos } with
    | error e => rfl
    | ok p =>
      obtain ⟨more, s1⟩ := p
      have ih (f' : FS) (h : f'.s = s1) := fetch_L k fuel f' (by rw [h, tokenize_input _ _ _ ht]; exact hok)
      cases more with
      | false => exact ih { f with s := s1, more := false } rfl
      | true =>
        simp only [mapTS, lcase, ↓reduceIte]
        refine bind_congr fun cur => ite_congr rfl (fun _ => ?_) (fun _ => ?_)
        · exact ih { f with s := s1, more := true, lastComment := cur } rfl
        · exact ih { f with s := s1, more := true, lastComment := { f.lastComment with cat := 0 }, pos := f.pos + 1 } rfl

theorem foldBody_L (f : FS) (hf : FInv f) (hok : CaseOK f.s.input) :
    foldBody (lowerF f) = (foldBody f).map lowerStep := by
  unfold foldBody
  rw [foldSpecial_L]
  obtain ⟨f1, h1, hf1, hev1, _, _⟩ := foldSpecial_ok' f hf
  have hok1 : CaseOK f1.s.input := by rw [hev1.1]; exact hok
  rw [h1]
  simp only [lcase]
  refine ite_congr rfl (fun _ => rfl) fun _ => ?_
  rw [fetch_L 2 _ f1 hok1]
  obtain ⟨f2, h2, hf2, _, _, hi2, _⟩ := fetch_ok' 2 _ f1 hf1 (fetch_fuel_ok f1)
  rw [h2]
  simp only [lcase]
  refine ite_congr rfl (fun _ => rfl) fun c2 => ?_
  rw [foldTwo_L]
  obtain ⟨r, hr, hrok, _⟩ := foldTwo_ok f2 hf2 (by omega)
  rw [hr]
  cases r with
  | done st => rfl
  | next f3 =>
    simp only [lcase]
    rw [fetch_L 3 _ f3 (by rw [hrok.2.1, hi2]; exact hok1)]
    simp only [lcase, foldThree_L]

def mapNF (r : M (Nat × FS)) : M (Nat × FS) := r.map (fun p => (p.1, lowerF p.2))
def mapNS (r : M (Nat × State)) : M (Nat × State) := r.map (fun p => (p.1, lowerS p.2))

theorem foldLoop_L : ∀ (fuel : Nat) (f : FS), FInv f → CaseOK f.s.input →
    foldLoop (lowerF f) fuel = mapNF (foldLoop f fuel)
  | 0, _, _, _ => rfl
  | fuel + 1, f, hf, hok => by
    unfold foldLoop
    rw [foldBody_L f hf hok]
    obtain ⟨st, hst, hbok⟩ := foldBody_ok f hf
    rw [hst]
    cases st with
    | cont f' => exact foldLoop_L fuel f' hbok.1 (by rw [hbok.2.1]; exact hok)
    | brk f' => simp only [mapNF, lcase, ite_bind, bind_assoc, pure_bind]; rfl
    | ret n f' => rfl

theorem skipLoop_L : ∀ (fuel : Nat) (s : State), CaseOK s.input → skipLoop (lowerS s) fuel = mapTS (skipLoop s fuel)
  | 0, _, _ => rfl
  | fuel + 1, s, hok => by
    unfold skipLoop
    rw [tokenize_L s hok]
    cases ht : tokenize s with
    | error e => rfl
    | ok p =>
      obtain ⟨more, s1⟩ := p
      have ih := skipLoop_L fuel s1 (by rw [tokenize_input _ _ _ ht]; exact hok)
      cases more with
      | false => rfl
      | true => simp only [mapTS, lcase, ih, Bool.not_true, Bool.false_eq_true, ↓reduceIte]

theorem fold_L (s : State) (hs : SInv s) (hz : ∀ j t, j ≠ 0 → s.tv[j]? = some t → t.cat = 0) (hok : CaseOK s.input) :
    fold (lowerS s) = mapNS (fold s) := by
  unfold fold
  obtain ⟨more, s1, h1, hs1, hi1, hc1, hpost⟩ := skipLoop_ok (s.input.length + 2) { s with cur := 0 }
    ⟨hs.1, hs.2.1, hs.2.2⟩ rfl hz (by show s.input.length - s.pos + 1 < s.input.length + 2; omega)
  dsimp only []
  rw [show skipLoop { lowerS s with cur := 0 } _ = _ from skipLoop_L _ { s with cur := 0 } hok, lowerS_input, L_length, h1]
  cases more with
  | false => rfl
  | true =>
    have hl : foldLoop { s := lowerS s1, pos := 1, left := 0, more := true, lastComment := {} } (foldFuel s1.input.length) =
        mapNF (foldLoop { s := s1, pos := 1, left := 0, more := true, lastComment := {} } (foldFuel s1.input.length)) :=
      foldLoop_L _ { s := s1, pos := 1, left := 0, more := true, lastComment := {} }
        ⟨hs1, Nat.zero_le _, by show 1 ≤ 6; omega, tokF_default⟩ (by show CaseOK s1.input; rw [hi1]; exact hok)
    simp only [mapTS, mapNS, mapNF, lcase, hl, Bool.not_true, Bool.false_eq_true, ↓reduceIte]

/-! ## fingerprint, whitelist, cascade -/

theorem lowerTok_idem (t : Token) : lowerTok (lowerTok t) = lowerTok t := by
  unfold lowerTok; simp only [L_idem]

theorem map_lowerTok_idem (l : List Token) : (l.map lowerTok).map lowerTok = l.map lowerTok := by
  rw [List.map_map]
  apply List.map_congr_left
  intro t _
  exact lowerTok_idem t

theorem lowerS_fp (s : State) (fp : Bytes) :
    lowerS { lowerS s with fingerprint := fp } = lowerS { s with fingerprint := fp } := by
  unfold lowerS
  simp only [L_idem, map_lowerTok_idem]

theorem lowerS_idem (s : State) : lowerS (lowerS s) = lowerS s := lowerS_fp s s.fingerprint

theorem sqliInit_L (input : Bytes) (flags : Nat) : sqliInit (L input) flags = lowerS (sqliInit input flags) := rfl

@[lcase] theorem recatLast_L (s : State) (n : Nat) : recatLast (lowerS s) n = (recatLast s n).map lowerS := by
  unfold recatLast
  simp only [lcase]

@[lcase] theorem buildFp_L (s : State) (n : Nat) : ∀ (fuel i : Nat) (acc : Bytes), buildFp (lowerS s) n i acc fuel = buildFp s n i acc fuel
  | 0, _, _ => rfl
  | fuel + 1, i, acc => by
    unfold buildFp
    simp only [lcase, buildFp_L s n fuel]
    rfl

/-- the fingerprints agree only up to `lowerS`: the evil-token branch stores the literal value `X` -/
theorem fingerprint_L (input : Bytes) (flags : Nat) (hok : CaseOK input) :
    (fingerprint (L input) flags).map lowerS = (fingerprint input flags).map lowerS := by
  unfold fingerprint
  dsimp only []
  rw [sqliInit_L, fold_L _ (sinv_init input flags) (init_empty input flags) hok]
  simp only [mapNS, lcase]
  refine bind_congr fun p => bind_congr fun s2 => bind_congr fun o => ?_
  cases o with
  | some fp => exact congrArg Except.ok (lowerS_fp s2 fp)
  | none =>
    simp only [lcase]
    refine bind_congr fun t0 => ?_
    unfold tvSet
    simp only [lowerS, List.length_map]
    split
    · simp only [lcase, L_idem, List.map_set, map_lowerTok_idem]
    · rfl

theorem isPrefix_mono : ∀ (n h : Bytes), isPrefix n h = true → isPrefix (L n) (L h) = true
  | [], _, _ => by simp [isPrefix, L]
  | a :: n, [], hp => by simp [isPrefix] at hp
  | a :: n, b :: h, hp => by
    simp only [isPrefix, Bool.and_eq_true, beq_iff_eq] at hp
    show isPrefix (lowerAscii a :: L n) (lowerAscii b :: L h) = true
    simp only [isPrefix, Bool.and_eq_true, beq_iff_eq]
    exact ⟨by rw [hp.1], isPrefix_mono n h hp.2⟩

theorem contains_cons (b : UInt8) (h n : Bytes) : contains (b :: h) n = (isPrefix n (b :: h) || contains h n) := by
  unfold contains
  rw [indexOf]
  by_cases hp : isPrefix n (b :: h) = true
  · simp [hp]
  · simp [hp]

theorem contains_nil (n : Bytes) : contains [] n = isPrefix n [] := by
  unfold contains
  rw [indexOf]
  by_cases hp : isPrefix n [] = true
  · simp [hp]
  · simp [hp]

theorem contains_mono (n : Bytes) : ∀ (h : Bytes), contains h n = true → contains (L h) (L n) = true
  | [], hc => by
    rw [contains_nil] at hc
    have := isPrefix_mono n [] hc
    show contains [] (L n) = true
    rw [contains_nil]; exact this
  | b :: h, hc => by
    rw [contains_cons, Bool.or_eq_true] at hc
    show contains (lowerAscii b :: L h) (L n) = true
    rw [contains_cons, Bool.or_eq_true]
    rcases hc with hc | hc
    · left; exact isPrefix_mono n (b :: h) hc
    · right; exact contains_mono n h hc

theorem spPassword_L : L spPassword = spPassword := by decide +kernel

theorem no_sp (input : Bytes) (h : contains (L input) spPassword = false) : contains input spPassword = false := by
  cases hc : contains input spPassword with
  | false => rfl
  | true =>
    have := contains_mono spPassword input hc
    rw [spPassword_L, h] at this
    cases this

theorem wlNumComment_L (s : State) (t0 : Token) : wlNumComment (lowerS s) (lowerTok t0) = wlNumComment s t0 := by
  unfold wlNumComment
  have e (c : UInt8) : (lowerAscii c ≤ 32) = (c ≤ 32) := by
    simpa using caseBlind (fun c => decide (c ≤ 32)) (by decide +kernel) c
  simp only [lcase, byteIs_L s.input _ 42 (by decide), byteIs_L s.input _ 45 (by decide), e, nl 47 (by decide),
    nl 45 (by decide)]

theorem wlTwo_L (s : State) (fp : Bytes) : wlTwo (lowerS s) fp = wlTwo s fp := by
  unfold wlTwo
  simp only [lcase, wlNumComment_L, nl 35 (by decide), nl_ne 47 (by decide), nl 45 (by decide)]
  rfl

theorem wlInto_L (t1 : Token) : wlInto (lowerTok t1) = wlInto t1 := by
  unfold wlInto
  simp only [lcase]

theorem wlThree_L (s : State) (fp : Bytes) : wlThree (lowerS s) fp = wlThree s fp := by
  unfold wlThree
  simp only [lcase, wlInto_L]
  rfl

theorem notWhitelist_L (s : State) (h : contains (L s.input) spPassword = false) :
    notWhitelist (lowerS s) = notWhitelist s := by
  unfold notWhitelist
  have e1 : (lowerS s).fingerprint = s.fingerprint := rfl
  simp only [e1, lowerS_input, h, no_sp s.input h, wlTwo_L, wlThree_L]

theorem checkFingerprint_L (s : State) (h : contains (L s.input) spPassword = false) :
    checkFingerprint (lowerS s) = checkFingerprint s := by
  unfold checkFingerprint
  have e1 : blacklist (lowerS s) = blacklist s := rfl
  rw [e1, notWhitelist_L s h]

/-- what `pass` observes of the final state -/
def passK (s : State) : M (Bool × Bytes × Bool) := do
  return (← checkFingerprint s, s.fingerprint, reparseAsMySQL s)

theorem pass_eq (input : Bytes) (flags : Nat) : pass input flags = (fingerprint input flags >>= passK) := rfl

theorem passK_L (s : State) (h : contains (L s.input) spPassword = false) : passK (lowerS s) = passK s := by
  unfold passK
  rw [checkFingerprint_L s h]
  rfl

theorem pass_L (input : Bytes) (flags : Nat) (hok : CaseOK input) (hsp : contains (L input) spPassword = false) :
    pass (L input) flags = pass input flags := by
  rw [pass_eq, pass_eq]
  have hfp := fingerprint_L input flags hok
  obtain ⟨sa, ha, hia, _⟩ := fingerprint_ok (L input) flags
  obtain ⟨sb, hb, hib, _⟩ := fingerprint_ok input flags
  rw [ha, hb] at hfp
  have hl : lowerS sa = lowerS sb := by
    have : Except.ok (lowerS sa) = (Except.ok (lowerS sb) : M State) := hfp
    exact Except.ok.inj this
  rw [ha, hb]
  show passK sa = passK sb
  rw [← passK_L sa (by rw [hia, L_idem]; exact hsp), ← passK_L sb (by rw [hib]; exact hsp), hl]

theorem isSQLi_L (input : Bytes) (hok : CaseOK input) (hsp : contains (L input) spPassword = false) :
    isSQLi (L input) = isSQLi input := by
  unfold isSQLi
  simp only [L_length, pass_L input _ hok hsp, indexByte_L 39 (nl 39 (by decide)),
    indexByte_L 34 (nl 34 (by decide))]

theorem lower_pre (x k : UInt8) (h : lowerAscii x = k) : x = k ∨ x = k - 32 := by
  unfold lowerAscii at h
  split at h
  · right; rw [← h, UInt8.add_sub_cancel]
  · left; exact h

theorem caseOK_of_lower (s s' : Bytes) (heq : L s = L s')
    (h1 : ∀ i : Nat, s[i]? = some (92 : UInt8) → s[i+1]? ≠ some (78 : UInt8) ∧ s[i+1]? ≠ some (110 : UInt8))
    (h2 : ∀ i : Nat, s[i]? = some (36 : UInt8) → ∀ c, s[i+1]? = some c → isLetter c = false)
    (h3 : ∀ i : Nat, (s[i]? = some (113 : UInt8) ∨ s[i]? = some (81 : UInt8)) → s[i+1]? = some (39 : UInt8) →
      ∀ c, s[i+2]? = some c → isLetter c = false) :
    CaseOK s' := by
  -- a non-letter of `s'` stands in `s` as well; any other byte of `s'` has in `s` a byte of the same lower-case form
  have same : ∀ k, isLetter k = false → ∀ i : Nat, s'[i]? = some k → s[i]? = some k := by
    intro k hk i h
    rw [← get_L k hk, heq, get_L k hk]
    exact h
  have low : ∀ (i : Nat) (c : UInt8), s'[i]? = some c → ∃ y, s[i]? = some y ∧ lowerAscii y = lowerAscii c := by
    intro i c h
    have g : (s[i]?).map lowerAscii = (s'[i]?).map lowerAscii := by rw [← L_get, ← L_get, heq]
    rw [h] at g
    cases hs : s[i]? with
    | none => rw [hs] at g; cases g
    | some y => rw [hs] at g; exact ⟨y, rfl, Option.some.inj g⟩
  refine ⟨?_, ?_, ?_⟩
  · intro i hi hi1
    obtain ⟨y, hy, hl⟩ := low (i + 1) 78 hi1
    have := h1 i (same 92 (by decide) i hi)
    rcases lower_pre y _ hl with rfl | rfl
    · exact this.2 hy
    · exact this.1 hy
  · intro i hi c hc
    obtain ⟨y, hy, hl⟩ := low (i + 1) c hc
    rw [← q_letter c, ← hl, q_letter y]
    exact h2 i (same 36 (by decide) i hi) y hy
  · intro i hi hi1 c hc
    obtain ⟨y, hy, hl⟩ := low (i + 2) c hc
    rw [← q_letter c, ← hl, q_letter y]
    refine h3 i ?_ (same 39 (by decide) (i + 1) hi1) y hy
    have hx : ∃ x, s[i]? = some x ∧ lowerAscii x = 113 := by
      rcases hi with h | h
      · exact low i 113 h
      · exact low i 81 h
    obtain ⟨x, hx, hxl⟩ := hx
    rcases lower_pre x _ hxl with rfl | rfl
    · exact Or.inl hx
    · exact Or.inr hx

/-- **inputs with the same lower-case form get the same result**, when the first has no exempt position and no
`sp_password` in any letter case -/
theorem isSQLi_of_lower_eq (s s' : Bytes) (heq : L s = L s')
    (h1 : ∀ i : Nat, s[i]? = some (92 : UInt8) → s[i+1]? ≠ some (78 : UInt8) ∧ s[i+1]? ≠ some (110 : UInt8))
    (h2 : ∀ i : Nat, s[i]? = some (36 : UInt8) → ∀ c, s[i+1]? = some c → isLetter c = false)
    (h3 : ∀ i : Nat, (s[i]? = some (113 : UInt8) ∨ s[i]? = some (81 : UInt8)) → s[i+1]? = some (39 : UInt8) →
      ∀ c, s[i+2]? = some c → isLetter c = false)
    (hsp : contains (L s) spPassword = false) : isSQLi s = isSQLi s' := by
  rw [← isSQLi_L s (caseOK_of_lower s s rfl h1 h2 h3) hsp,
    ← isSQLi_L s' (caseOK_of_lower s s' heq h1 h2 h3) (heq ▸ hsp), heq]

/-- executable form of `CaseOK` -/
def caseOKAt (inp : Bytes) (i : Nat) : Bool :=
  (inp[i]? != some 92 || inp[i+1]? != some 78) &&
  (inp[i]? != some 36 || (inp[i+1]?).all (fun c => !isLetter c)) &&
  (!(inp[i]? == some 113 || inp[i]? == some 81) || inp[i+1]? != some 39 || (inp[i+2]?).all (fun c => !isLetter c))

def caseOKb (inp : Bytes) : Bool := (List.range inp.length).all (caseOKAt inp)

theorem caseOKb_sound (inp : Bytes) (h : caseOKb inp = true) : CaseOK inp := by
  have hat : ∀ i : Nat, inp[i]? ≠ none → caseOKAt inp i = true := by
    intro i hi
    unfold caseOKb at h
    rw [List.all_eq_true] at h
    apply h
    rw [List.mem_range]
    rcases Nat.lt_or_ge i inp.length with hlt | hge
    · exact hlt
    · exact absurd (List.getElem?_eq_none hge) hi
  refine ⟨?_, ?_, ?_⟩
  · intro i hi hi1
    have := hat i (by rw [hi]; simp)
    unfold caseOKAt at this
    simp [hi, hi1] at this
  · intro i hi c hc
    have := hat i (by rw [hi]; simp)
    unfold caseOKAt at this
    simp [hi, hc] at this
    exact this
  · intro i hi hi1 c hc
    have := hat i (by rcases hi with h | h <;> rw [h] <;> simp)
    unfold caseOKAt at this
    rcases hi with h | h <;> simp [h, hi1, hc] at this <;> exact this

end LibInj.Sqli
