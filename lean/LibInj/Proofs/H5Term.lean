import LibInj.Html5.Machine
import LibInj.Proofs.Index
/-! First-terminator refinements of the searching loops of the HTML5 tokenizer (C17):
`<![CDATA[ .. ]]>`, `<% .. %>`, `<!-- .. -->`. Each loop is shown to return what a search for the first
terminator returns (`FirstFrom`); that it returns at all, and a token inside the input (`Searched`, a property of
the result), follows. `Searches f T ty` says of a state function `f` that it is such a search for the terminator `T`. -/
namespace LibInj.H5
open LibInj

theorem offFrom_ok {s : Bytes} {i : Nat} (h : i ≤ s.length) : offFrom s i = .ok i := by
  simp [offFrom, h]

theorem getElem?_some_lt {s : Bytes} {i : Nat} {c : UInt8} (h : s[i]? = some c) : i < s.length := by
  rcases Nat.lt_or_ge i s.length with h' | h'
  · exact h'
  · simp [List.getElem?_eq_none h'] at h

theorem ne_doctype_at (w : Bytes) (k : Nat) (c : UInt8) (hk : w[k]? = some c) (hc : doctypeLower[k]? ≠ some (lowerAscii c)) :
    (goLowerAscii w == doctypeLower) = false := by
  cases hcmp : goLowerAscii w == doctypeLower with
  | false => rfl
  | true =>
    exfalso
    have he : goLowerAscii w = doctypeLower := by simpa using hcmp
    apply hc
    rw [← he]
    unfold goLowerAscii
    rw [List.getElem?_map, hk]
    rfl

theorem ne_cdata_at (w : Bytes) (k : Nat) (c : UInt8) (hk : w[k]? = some c) (hc : cdataOpen[k]? ≠ some c) :
    (w == cdataOpen) = false := by
  cases hcmp : w == cdataOpen with
  | false => rfl
  | true =>
    exfalso
    have he : w = cdataOpen := by simpa using hcmp
    exact hc (he ▸ hk)

/-- a property holds of a conditional when it holds of each branch under its condition (as `split`, which
however costs twice as much for every further conditional nested in the branches) -/
theorem if_cases {α : Sort _} {P : α → Prop} {c : Prop} [Decidable c] {a b : α}
    (ha : c → P a) (hb : ¬ c → P b) : P (if c then a else b) := by
  by_cases hc : c
  · rw [if_pos hc]; exact ha hc
  · rw [if_neg hc]; exact hb hc

/-- the two bytes `a b` stand at offset `i` -/
def Term2 (s : Bytes) (a b : UInt8) (i : Nat) : Prop := s[i]? = some a ∧ s[i + 1]? = some b
/-- the three bytes `a b c` stand at offset `i` -/
def Term3 (s : Bytes) (a b c : UInt8) (i : Nat) : Prop := s[i]? = some a ∧ s[i + 1]? = some b ∧ s[i + 2]? = some c

/-- result of a searching loop that found its terminator at `i`, of width `w` -/
def foundAt (h : H) (ty : Ty) (i w : Nat) : M (Bool × H) := .ok (true, emit h h.pos (i - h.pos) ty (i + w) .data)
/-- result of a searching loop that ran to end of input -/
def ranOut (h : H) (ty : Ty) : M (Bool × H) :=
  .ok (true, { h with state := .eof, tokStart := h.pos, tokLen := h.s.length - h.pos, tokType := ty })
/-- result of `<% ..` without `%>`: the token runs to end of input and the scan offset moves there -/
def ranOutEnd (h : H) (ty : Ty) : M (Bool × H) := .ok (true, emit h h.pos (h.s.length - h.pos) ty h.s.length .eof)

/-! ### searching for the first offset with a property -/

/-- `r` is what a search from `pos` returns: `found i` at the first `i ≥ pos` with `Q i`, `none` if there is no such `i` -/
def FirstFrom {α : Type} (Q : Nat → Prop) (pos : Nat) (found : Nat → α) (none r : α) : Prop :=
  (∀ i, pos ≤ i → Q i → (∀ j, pos ≤ j → j < i → ¬ Q j) → r = found i) ∧ ((∀ i, pos ≤ i → ¬ Q i) → r = none)

namespace FirstFrom
variable {α : Type} {Q : Nat → Prop} {pos p : Nat} {found : Nat → α} {none r : α}

theorem ranOut (hQ : ∀ i, pos ≤ i → ¬ Q i) : FirstFrom Q pos found none none :=
  ⟨fun i hi hq _ => absurd hq (hQ i hi), fun _ => rfl⟩

theorem here (hp : pos ≤ p) (hbefore : ∀ j, pos ≤ j → j < p → ¬ Q j) (hq : Q p) : FirstFrom Q pos found none (found p) := by
  refine ⟨fun i hi hqi hfirst => ?_, fun hno => absurd hq (hno p hp)⟩
  rcases Nat.lt_trichotomy i p with hl | he | hg
  · exact absurd hqi (hbefore i hi hl)
  · rw [he]
  · exact absurd hq (hfirst p hp hg)

theorem skip (hp : pos ≤ p) (hbefore : ∀ j, pos ≤ j → j < p → ¬ Q j) (g : FirstFrom Q p found none r) :
    FirstFrom Q pos found none r :=
  ⟨fun i hi hqi hfirst => g.1 i (Nat.le_of_not_lt fun hl => hbefore i hi hl hqi) hqi fun j hj => hfirst j (Nat.le_trans hp hj),
   fun hno => g.2 fun i hi => hno i (Nat.le_trans hp hi)⟩

theorem skipPast (hp : pos ≤ p) (hbefore : ∀ j, pos ≤ j → j < p → ¬ Q j) (hnt : ¬ Q p) (g : FirstFrom Q (p + 1) found none r) :
    FirstFrom Q pos found none r :=
  skip (Nat.le_succ_of_le hp)
    (fun j hj hj' hq => (Nat.lt_or_eq_of_le (Nat.le_of_lt_succ hj')).elim (fun hl => hbefore j hj hl hq) fun he => hnt (he ▸ hq)) g

theorem least : ∀ i, pos ≤ i → Q i → ∃ k, pos ≤ k ∧ Q k ∧ ∀ j, pos ≤ j → j < k → ¬ Q j := by
  intro i
  induction i using Nat.strongRecOn with
  | ind i ih =>
    intro hi hq
    by_cases hex : ∃ j, pos ≤ j ∧ j < i ∧ Q j
    · obtain ⟨j, h1, h2, h3⟩ := hex
      exact ih j h2 h1 h3
    · exact ⟨i, hi, hq, fun j h1 h2 h3 => hex ⟨j, h1, h2, h3⟩⟩

theorem cases (g : FirstFrom Q pos found none r) : r = none ∨ ∃ i, pos ≤ i ∧ Q i ∧ r = found i := by
  by_cases hex : ∃ i, pos ≤ i ∧ Q i
  · obtain ⟨i, hi, hq⟩ := hex
    obtain ⟨k, h1, h2, h3⟩ := least i hi hq
    exact Or.inr ⟨k, h1, h2, g.1 k h1 h2 h3⟩
  · exact Or.inl (g.2 fun i hi hq => hex ⟨i, hi, hq⟩)

end FirstFrom

theorem cdataLoop_first (h : H) (hp : h.pos ≤ h.s.length) :
    ∀ fuel pos, h.pos ≤ pos → pos ≤ h.s.length → h.s.length - pos < fuel →
      FirstFrom (Term3 h.s 93 93 62) pos (fun i => foundAt h .dataText i 3) (ranOut h .dataText)
        (cdataLoop h pos fuel) := by
  intro fuel
  induction fuel with
  | zero => intro pos _ _ hf; omega
  | succ fuel ih =>
    intro pos h1 h2 hf
    have hsk := indexByte_skip (s := h.s) (Q := Term3 h.s 93 93 62) (fun i hq => hq.1) pos
    unfold cdataLoop
    simp only [offFrom_ok h2, offFrom_ok hp, bind, Except.bind, pure, Except.pure]
    cases hi : indexByte (h.s.drop pos) 93 with
    | none => exact .ranOut (hsk.1 hi)
    | some index =>
      obtain ⟨hat, hbefore⟩ := hsk.2 index hi
      have hlt := getElem?_some_lt hat
      simp only []
      refine if_cases (fun hg => .ranOut fun i hpi hq => ?_) fun hg => ?_
      · have := getElem?_some_lt hq.2.2
        exact hbefore i hpi (by omega) hq
      · have h3 : pos + index + 2 < h.s.length := by omega
        have h3' : pos + index + 1 < h.s.length := by omega
        -- the loop goes on behind a `]` that does not start a terminator
        have recurse : ¬ Term3 h.s 93 93 62 (pos + index) →
            FirstFrom (Term3 h.s 93 93 62) pos (fun i => foundAt h .dataText i 3) (ranOut h .dataText)
              (cdataLoop h (pos + index + 1) fuel) := fun hnt =>
          .skipPast (Nat.le_add_right _ _) hbefore hnt (ih (pos + index + 1) (by omega) (by omega) (by omega))
        rw [at'_ok h3']
        simp only []
        by_cases hc1 : h.s[pos + index + 1] = 93
        · simp only [hc1, beq_self_eq_true, ite_true, at'_ok h3]
          by_cases hc2 : h.s[pos + index + 2] = 62
          · simp only [hc2, beq_self_eq_true, ite_true]
            exact .here (Nat.le_add_right _ _) hbefore
              ⟨hat, by rw [List.getElem?_eq_getElem h3', hc1], by rw [List.getElem?_eq_getElem h3, hc2]⟩
          · simp only [beq_iff_eq, hc2, ite_false]
            exact recurse fun ht => hc2 (Option.some.inj (List.getElem?_eq_getElem h3 ▸ ht.2.2))
        · simp only [beq_iff_eq, hc1, ite_false]
          exact recurse fun ht => hc1 (Option.some.inj (List.getElem?_eq_getElem h3' ▸ ht.2.1))

theorem cdata_first_terminator (h : H) (hp : h.pos ≤ h.s.length) :
    (∀ i, Term3 h.s 93 93 62 i → h.pos ≤ i → (∀ j, h.pos ≤ j → j < i → ¬ Term3 h.s 93 93 62 j) →
      stateCData h = foundAt h .dataText i 3) ∧
    ((∀ i, h.pos ≤ i → ¬ Term3 h.s 93 93 62 i) → stateCData h = ranOut h .dataText) :=
  have g := cdataLoop_first h hp _ _ (Nat.le_refl _) hp (Nat.lt_succ_of_le (Nat.sub_le _ _))
  ⟨fun i hq hi hfirst => g.1 i hi hq hfirst, g.2⟩

theorem bogus2Loop_first (h : H) (hp : h.pos ≤ h.s.length) :
    ∀ fuel pos, h.pos ≤ pos → pos ≤ h.s.length → h.s.length - pos < fuel →
      FirstFrom (Term2 h.s 37 62) pos (fun i => foundAt h .tagComment i 2) (ranOutEnd h .tagComment)
        (bogus2Loop h pos fuel) := by
  intro fuel
  induction fuel with
  | zero => intro pos _ _ hf; omega
  | succ fuel ih =>
    intro pos h1 h2 hf
    have hsk := indexByte_skip (s := h.s) (Q := Term2 h.s 37 62) (fun i hq => hq.1) pos
    unfold bogus2Loop
    simp only [offFrom_ok h2, offFrom_ok hp, bind, Except.bind, pure, Except.pure]
    cases hi : indexByte (h.s.drop pos) 37 with
    | none => exact .ranOut (hsk.1 hi)
    | some index =>
      obtain ⟨hat, hbefore⟩ := hsk.2 index hi
      simp only []
      refine if_cases (fun hg => .ranOut fun i hpi hq => ?_) fun hg => ?_
      · have := getElem?_some_lt hq.2
        exact hbefore i hpi (by omega) hq
      · have h3 : pos + index + 1 < h.s.length := by omega
        rw [at'_ok h3]
        simp only []
        refine if_cases (fun hc => ?_) fun hc => ?_
        · refine .skipPast (Nat.le_add_right _ _) hbefore (fun hq => ?_) (ih (pos + index + 1) (by omega) (by omega) (by omega))
          rw [Term2, List.getElem?_eq_getElem h3] at hq
          exact (bne_iff_ne.mp hc) (Option.some.inj hq.2)
        · rw [Bool.not_eq_true, bne_eq_false_iff_eq] at hc
          exact .here (Nat.le_add_right _ _) hbefore ⟨hat, by rw [List.getElem?_eq_getElem h3, hc]⟩

theorem percent_first_terminator (h : H) (hp : h.pos ≤ h.s.length) :
    (∀ i, Term2 h.s 37 62 i → h.pos ≤ i → (∀ j, h.pos ≤ j → j < i → ¬ Term2 h.s 37 62 j) →
      stateBogusComment2 h = foundAt h .tagComment i 2) ∧
    ((∀ i, h.pos ≤ i → ¬ Term2 h.s 37 62 i) → stateBogusComment2 h = ranOutEnd h .tagComment) :=
  have g := bogus2Loop_first h hp _ _ (Nat.le_refl _) hp (Nat.lt_succ_of_le (Nat.sub_le _ _))
  ⟨fun i hq hi hfirst => g.1 i hi hq hfirst, g.2⟩

/-- a comment terminator at `i` with `n` NULs after its first dash: `-` NUL^n (`-`|`!`) `>` -/
def ComEnd (s : Bytes) (i n : Nat) : Prop :=
  s[i]? = some 45 ∧ (∀ k, k < n → s[i + 1 + k]? = some 0) ∧
  (s[i + 1 + n]? = some 45 ∨ s[i + 1 + n]? = some 33) ∧ s[i + 2 + n]? = some 62

theorem spn_isNul_eq : ∀ (l : Bytes) (n : Nat) (c : UInt8), (∀ k, k < n → l[k]? = some 0) → l[n]? = some c → c ≠ 0 →
    spn isNul l = n
  | [], n, c, _, h, _ => by simp at h
  | x :: xs, 0, c, _, h, hc => by
    have : x = c := by simpa using h
    subst this
    have : isNul x = false := by simp [isNul, hc]
    simp [spn, this]
  | x :: xs, n + 1, c, hz, h, hc => by
    have hx : x = 0 := by simpa using hz 0 (by omega)
    subst hx
    have ih := spn_isNul_eq xs n c (fun k hk => by simpa using hz (k + 1) (by omega)) (by simpa using h) hc
    simp [spn, isNul, ih]

theorem spn_isNul_all : ∀ (l : Bytes) (k : Nat), k < spn isNul l → l[k]? = some 0
  | [], k, h => by simp [spn] at h
  | x :: xs, k, h => by
    by_cases hx : isNul x = true
    · have hx0 : x = 0 := by simpa [isNul] using hx
      simp only [spn, hx, ↓reduceIte] at h
      cases k with
      | zero => simp [hx0]
      | succ k => simpa using spn_isNul_all xs k (by omega)
    · simp [spn, hx] at h

/-- at most one NUL-run length fits a terminator at a given dash -/
theorem comEnd_nulls (s : Bytes) (i n : Nat) (h : ComEnd s i n) : spn isNul (s.drop (i + 1)) = n := by
  obtain ⟨_, hz, hc, _⟩ := h
  rcases hc with hc | hc
  · exact spn_isNul_eq _ n 45 (fun k hk => by rw [List.getElem?_drop]; exact hz k hk) (by rw [List.getElem?_drop]; exact hc) (by decide)
  · exact spn_isNul_eq _ n 33 (fun k hk => by rw [List.getElem?_drop]; exact hz k hk) (by rw [List.getElem?_drop]; exact hc) (by decide)

theorem commentLoop_first (h : H) (hp : h.pos ≤ h.s.length) :
    ∀ fuel pos, h.pos ≤ pos → pos ≤ h.s.length → h.s.length - pos < fuel →
      FirstFrom (fun i => ∃ n, ComEnd h.s i n) pos
        (fun i => foundAt h .tagComment i (spn isNul (h.s.drop (i + 1)) + 3)) (ranOut h .tagComment)
        (commentLoop h pos fuel) := by
  intro fuel
  induction fuel with
  | zero => intro pos _ _ hf; omega
  | succ fuel ih =>
    intro pos h1 h2 hf
    have hsk := indexByte_skip (s := h.s) (Q := fun i => ∃ n, ComEnd h.s i n) (fun i ⟨_, hq⟩ => hq.1) pos
    unfold commentLoop
    simp only [offFrom_ok h2, offFrom_ok hp, bind, Except.bind, pure, Except.pure]
    cases hi : indexByte (h.s.drop pos) 45 with
    | none => exact .ranOut (hsk.1 hi)
    | some index =>
      obtain ⟨hat, hbefore⟩ := hsk.2 index hi
      have hlt := getElem?_some_lt hat
      -- the loop goes on behind a dash that does not start a terminator
      have recurse : (¬ ∃ n, ComEnd h.s (pos + index) n) →
          FirstFrom (fun i => ∃ n, ComEnd h.s i n) pos
            (fun i => foundAt h .tagComment i (spn isNul (h.s.drop (i + 1)) + 3)) (ranOut h .tagComment)
            (commentLoop h (pos + index + 1) fuel) := fun hnt =>
        .skipPast (Nat.le_add_right _ _) hbefore hnt (ih (pos + index + 1) (by omega) (by omega) (by omega))
      simp only []
      refine if_cases (fun hg => .ranOut fun i hpi ⟨n, hq⟩ => ?_) fun hg => ?_
      · have := getElem?_some_lt hq.2.2.2
        exact hbefore i hpi (by omega) ⟨n, hq⟩
      · have hnul := spn_isNul_all (h.s.drop (pos + index + 1))
        have hn := spn_le isNul (h.s.drop (pos + index + 1))
        rw [List.length_drop] at hn
        -- a terminator at this dash has exactly `nulls` NULs
        have hfit : (∃ n, ComEnd h.s (pos + index) n) → ComEnd h.s (pos + index) (spn isNul (h.s.drop (pos + index + 1))) :=
          fun ⟨n, hq⟩ => comEnd_nulls _ _ _ hq ▸ hq
        generalize hnulls : spn isNul (h.s.drop (pos + index + 1)) = nulls at hnul hn hfit ⊢
        -- a later dash is not among the NULs: when fewer than two bytes follow them nothing can end there
        have lateEnd : h.s.length ≤ pos + index + nulls + 2 → (¬ ∃ n, ComEnd h.s (pos + index) n) →
            ∀ i, pos ≤ i → ¬ ∃ n, ComEnd h.s i n := by
          intro hlen hnt i hpi ⟨n, hq⟩
          rcases Nat.lt_trichotomy i (pos + index) with hl | he | hgt
          · exact hbefore i hpi hl ⟨n, hq⟩
          · exact hnt ⟨n, he ▸ hq⟩
          · have := getElem?_some_lt hq.2.2.2
            have hz := hnul (i - (pos + index + 1)) (by omega)
            rw [List.getElem?_drop, Nat.add_sub_cancel' hgt, hq.1] at hz
            exact absurd (Option.some.inj hz) (by decide)
        refine if_cases (fun he1 => .ranOut (lateEnd (by have := eq_of_beq he1; omega) fun hq => ?_)) fun he1 => ?_
        · have := getElem?_some_lt (hfit hq).2.2.2
          have := eq_of_beq he1
          omega
        have hb1 : pos + index + (1 + nulls) < h.s.length := by
          have : ¬ (pos + index + (1 + nulls) = h.s.length) := by simpa using he1
          omega
        rw [at'_ok hb1]
        simp only []
        refine if_cases (fun hch => recurse fun hq => ?_) fun hch => ?_
        · have hc := (hfit hq).2.2.1
          rw [show pos + index + 1 + nulls = pos + index + (1 + nulls) by omega, List.getElem?_eq_getElem hb1] at hc
          simp only [Bool.and_eq_true, bne_iff_ne, ne_eq] at hch
          exact hc.elim (fun hc => hch.1 (Option.some.inj hc)) fun hc => hch.2 (Option.some.inj hc)
        refine if_cases (fun he2 => .ranOut (lateEnd (by have := eq_of_beq he2; omega) fun hq => ?_)) fun he2 => ?_
        · have := getElem?_some_lt (hfit hq).2.2.2
          have := eq_of_beq he2
          omega
        have hb2 : pos + index + (1 + nulls + 1) < h.s.length := by
          have : ¬ (pos + index + (1 + nulls + 1) = h.s.length) := by simpa using he2
          omega
        rw [at'_ok hb2]
        simp only []
        refine if_cases (fun hc2 => recurse fun hq => ?_) fun hc2 => ?_
        · have hc := (hfit hq).2.2.2
          rw [show pos + index + 2 + nulls = pos + index + (1 + nulls + 1) by omega, List.getElem?_eq_getElem hb2] at hc
          exact (bne_iff_ne.mp hc2) (Option.some.inj hc)
        · have hgt : h.s[pos + index + (1 + nulls + 1)] = 62 := by simpa using hc2
          have hchv : h.s[pos + index + (1 + nulls)] = 45 ∨ h.s[pos + index + (1 + nulls)] = 33 := by
            simp only [Bool.and_eq_true, bne_iff_ne, ne_eq, not_and, Decidable.not_not] at hch
            exact (Decidable.em _).imp_right hch
          have hterm : ComEnd h.s (pos + index) nulls := by
            refine ⟨hat, fun k hk => List.getElem?_drop ▸ hnul k hk, ?_, ?_⟩
            · rw [show pos + index + 1 + nulls = pos + index + (1 + nulls) by omega, List.getElem?_eq_getElem hb1]
              exact hchv.imp (congrArg some) (congrArg some)
            · rw [show pos + index + 2 + nulls = pos + index + (1 + nulls + 1) by omega, List.getElem?_eq_getElem hb2, hgt]
          rw [show index + pos = pos + index from Nat.add_comm _ _, show 1 + nulls + 1 + 1 = nulls + 3 by omega, ← hnulls]
          exact .here (Nat.le_add_right _ _) hbefore ⟨_, hnulls ▸ hterm⟩

theorem comment_first_terminator (h : H) (hp : h.pos ≤ h.s.length) :
    (∀ i n, ComEnd h.s i n → h.pos ≤ i → (∀ j m, h.pos ≤ j → j < i → ¬ ComEnd h.s j m) →
      stateComment h = foundAt h .tagComment i (n + 3)) ∧
    ((∀ i n, h.pos ≤ i → ¬ ComEnd h.s i n) → stateComment h = ranOut h .tagComment) := by
  have g := commentLoop_first h hp _ _ (Nat.le_refl _) hp (Nat.lt_succ_of_le (Nat.sub_le _ _))
  refine ⟨fun i n hq hi hfirst => ?_, fun hno => g.2 fun i hi ⟨n, hq⟩ => hno i n hi hq⟩
  rw [← comEnd_nulls _ _ _ hq]
  exact g.1 i hi ⟨n, hq⟩ fun j hj hji ⟨m, hm⟩ => hfirst j m hj hji hm


/-! ### the three searching states in one form -/

/-- `f` emits a `ty` token up to the first terminator `T` (at offset `i`, of width `wd`) at or after the scan
offset and resumes behind it; without one the token runs to end of input. The three first-terminator theorems are
instances (`cdata_searches`, `percent_searches`, `comment_searches`); what holds of every searching state is proved from this form -/
def Searches (f : H → M (Bool × H)) (T : Bytes → Nat → Nat → Prop) (ty : Ty) : Prop :=
  ∀ h : H, h.pos ≤ h.s.length →
    (∀ i wd, T h.s i wd → h.pos ≤ i → (∀ j wd', h.pos ≤ j → j < i → ¬ T h.s j wd') → f h = foundAt h ty i wd) ∧
    ((∀ i wd, h.pos ≤ i → ¬ T h.s i wd) → f h = ranOut h ty ∨ f h = ranOutEnd h ty)

theorem Searches.cases {f : H → M (Bool × H)} {T : Bytes → Nat → Nat → Prop} {ty : Ty} (hS : Searches f T ty)
    (h : H) (hp : h.pos ≤ h.s.length) :
    (∃ i wd, T h.s i wd ∧ h.pos ≤ i ∧ (∀ j wd', h.pos ≤ j → j < i → ¬ T h.s j wd') ∧ f h = foundAt h ty i wd) ∨
    (f h = ranOut h ty ∨ f h = ranOutEnd h ty) := by
  by_cases hex : ∃ i, h.pos ≤ i ∧ ∃ wd, T h.s i wd
  · obtain ⟨i0, hp0, hi0⟩ := hex
    obtain ⟨i, hpi, ⟨wd, hTi⟩, hleast⟩ := FirstFrom.least (Q := fun i => ∃ wd, T h.s i wd) i0 hp0 hi0
    have hl : ∀ j wd', h.pos ≤ j → j < i → ¬ T h.s j wd' := fun j wd' hj hji hTj => hleast j hj hji ⟨wd', hTj⟩
    exact Or.inl ⟨i, wd, hTi, hpi, hl, (hS h hp).1 i wd hTi hpi hl⟩
  · exact Or.inr ((hS h hp).2 (fun i wd hpi hTi => hex ⟨i, hpi, wd, hTi⟩))

theorem Searches.ty {f : H → M (Bool × H)} {T : Bytes → Nat → Nat → Prop} {ty : Ty} (hS : Searches f T ty)
    (h : H) (hp : h.pos ≤ h.s.length) (h1 : H) (hn : f h = .ok (true, h1)) : h1.tokType = ty := by
  rcases hS.cases h hp with ⟨i, wd, _, _, _, hx⟩ | hx | hx
  all_goals
    rw [hx] at hn
    cases hn; rfl

theorem cdata_searches : Searches stateCData (fun s i wd => Term3 s 93 93 62 i ∧ wd = 3) .dataText := fun h hp =>
  ⟨fun i wd hT hpi hl => by
      obtain ⟨hT, rfl⟩ := hT
      exact (cdata_first_terminator h hp).1 i hT hpi (fun j hj hji hTj => hl j 3 hj hji ⟨hTj, rfl⟩),
   fun hno => Or.inl ((cdata_first_terminator h hp).2 fun i hpi hT => hno i 3 hpi ⟨hT, rfl⟩)⟩

theorem percent_searches : Searches stateBogusComment2 (fun s i wd => Term2 s 37 62 i ∧ wd = 2) .tagComment := fun h hp =>
  ⟨fun i wd hT hpi hl => by
      obtain ⟨hT, rfl⟩ := hT
      exact (percent_first_terminator h hp).1 i hT hpi (fun j hj hji hTj => hl j 2 hj hji ⟨hTj, rfl⟩),
   fun hno => Or.inr ((percent_first_terminator h hp).2 fun i hpi hT => hno i 2 hpi ⟨hT, rfl⟩)⟩

theorem comment_searches : Searches stateComment (fun s i wd => ∃ n, ComEnd s i n ∧ wd = n + 3) .tagComment := fun h hp =>
  ⟨fun i wd hT hpi hl => by
      obtain ⟨n, hT, rfl⟩ := hT
      exact (comment_first_terminator h hp).1 i n hT hpi (fun j m hj hji hTj => hl j (m + 3) hj hji ⟨m, hTj, rfl⟩),
   fun hno => Or.inl ((comment_first_terminator h hp).2 fun i n hpi hT => hno i (n + 3) hpi ⟨n, hT, rfl⟩)⟩

/-! ### what the searching states return, whatever the input -/

/-- the rest of the input as one token, or the bytes before a terminator that lies inside the input -/
def Searched (h : H) (ty : Ty) (r : M (Bool × H)) : Prop :=
  r = ranOut h ty ∨ r = ranOutEnd h ty ∨ ∃ i w, h.pos ≤ i ∧ 0 < w ∧ i + w ≤ h.s.length ∧ r = foundAt h ty i w

theorem cdataLoop_searched (h : H) (hp : h.pos ≤ h.s.length) (fuel pos : Nat) (h1 : h.pos ≤ pos)
    (h2 : pos ≤ h.s.length) (hf : h.s.length - pos < fuel) : Searched h .dataText (cdataLoop h pos fuel) := by
  rcases (cdataLoop_first h hp fuel pos h1 h2 hf).cases with e | ⟨i, hi, hq, e⟩
  · exact Or.inl e
  · exact Or.inr (Or.inr ⟨i, 3, Nat.le_trans h1 hi, by decide, getElem?_some_lt hq.2.2, e⟩)

theorem bogus2Loop_searched (h : H) (hp : h.pos ≤ h.s.length) (fuel pos : Nat) (h1 : h.pos ≤ pos)
    (h2 : pos ≤ h.s.length) (hf : h.s.length - pos < fuel) : Searched h .tagComment (bogus2Loop h pos fuel) := by
  rcases (bogus2Loop_first h hp fuel pos h1 h2 hf).cases with e | ⟨i, hi, hq, e⟩
  · exact Or.inr (Or.inl e)
  · exact Or.inr (Or.inr ⟨i, 2, Nat.le_trans h1 hi, by decide, getElem?_some_lt hq.2, e⟩)

theorem commentLoop_searched (h : H) (hp : h.pos ≤ h.s.length) (fuel pos : Nat) (h1 : h.pos ≤ pos)
    (h2 : pos ≤ h.s.length) (hf : h.s.length - pos < fuel) : Searched h .tagComment (commentLoop h pos fuel) := by
  rcases (commentLoop_first h hp fuel pos h1 h2 hf).cases with e | ⟨i, hi, ⟨n, hq⟩, e⟩
  · exact Or.inl e
  · rw [comEnd_nulls _ _ _ hq] at e
    have := getElem?_some_lt hq.2.2.2
    exact Or.inr (Or.inr ⟨i, n + 3, Nat.le_trans h1 hi, Nat.succ_pos _, by omega, e⟩)

theorem gt_searched (h : H) (hp : h.pos ≤ h.s.length) :
    Searched h .tagComment (stateBogusComment h) ∧ Searched h .docType (stateDoctype h) := by
  unfold stateBogusComment stateDoctype
  rw [offFrom_ok hp]
  cases hi : indexByte (h.s.drop h.pos) 62 with
  | none => exact ⟨Or.inr (Or.inl rfl), Or.inl rfl⟩
  | some i =>
    have hlt := indexByte_lt hi
    rw [List.length_drop] at hlt
    have e : ∀ ty, foundAt h ty (h.pos + i) 1 = .ok (true, emit h h.pos i ty (h.pos + i + 1) .data) := fun ty => by
      rw [foundAt, Nat.add_sub_cancel_left]
    exact ⟨Or.inr (Or.inr ⟨_, 1, Nat.le_add_right _ _, Nat.one_pos, by omega, (e _).symm⟩),
      Or.inr (Or.inr ⟨_, 1, Nat.le_add_right _ _, Nat.one_pos, by omega, (e _).symm⟩)⟩

end LibInj.H5
