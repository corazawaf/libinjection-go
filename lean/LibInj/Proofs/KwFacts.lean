import LibInj.Proofs.KwTable
import LibInj.Proofs.Case
/-! What a keyword look-up can return: nothing, or a documented class; the class `f` only for keys of
at least two bytes. From the regenerated table (kernel-checked on every build). -/
namespace LibInj.Sqli
open LibInj LibInj.Tables

def classBytes : Bytes := [107, 85, 66, 69, 116, 102, 110, 49, 118, 115, 111, 38, 99, 65, 40, 41, 123, 125, 46, 44, 58, 59, 84, 63, 88, 70, 92]
def isClassU8 (c : UInt8) : Bool := classBytes.contains c

theorem class_bridge : (List.range 128).all (fun v => !isClass v || isClassU8 v.toUInt8) = true := by decide +kernel

theorem kw_fact {p : Entry → Bool} (h : Gen.keywords.all p = true) {l n v : Nat} (hl : lookupKw l n = some v) :
    p (l, n, v) = true :=
  List.all_eq_true.mp h _ (lookupIn_some_mem _ _ _ _ hl)

theorem searchKeyword_found (w : Bytes) :
    searchKeyword w = 0 ∨ ∃ v, lookupKw (goUpper w).length (keyNat (goUpper w)) = some v ∧ searchKeyword w = v.toUInt8 := by
  rw [searchKeyword_eq]; unfold searchKeywordSpec
  simp only []
  cases lookupKw (goUpper w).length (keyNat (goUpper w)) with
  | none => exact Or.inl rfl
  | some v => exact Or.inr ⟨v, rfl, rfl⟩

theorem toUInt8_inj {v k : Nat} (hv : v < 128) (hk : k < 128) (e : v.toUInt8 = k.toUInt8) : v = k := by
  have := congrArg UInt8.toNat e
  simp at this
  omega

theorem searchKeyword_cases (w : Bytes) :
    searchKeyword w = 0 ∨ (isClassU8 (searchKeyword w) = true ∧ (searchKeyword w = 102 → 2 ≤ w.length) ∧ 1 ≤ w.length) := by
  rcases searchKeyword_found w with h0 | ⟨v, hl, hv⟩
  · exact Or.inl h0
  · right
    rw [hv]
    have hok := kw_fact keywords_valOK hl
    simp only [valOK, Bool.and_eq_true, Nat.blt_eq, Bool.or_eq_true, Bool.not_eq_true', Nat.ble_eq] at hok
    obtain ⟨⟨⟨hv128, hcls⟩, hf⟩, hlen⟩ := hok
    have hgl := goUpper_length_le _ w (Nat.le_refl _)
    have hb := List.all_eq_true.mp class_bridge v (List.mem_range.mpr hv128)
    simp only [hcls, Bool.not_true, Bool.false_or] at hb
    refine ⟨hb, fun h102 => ?_, by omega⟩
    rw [toUInt8_inj hv128 (by decide : 102 < 128) h102] at hf
    rcases hf with hf | hf
    · cases hf
    · omega

end LibInj.Sqli
