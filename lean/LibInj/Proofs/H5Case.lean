import LibInj.Html5.Machine
import LibInj.Proofs.Case
/-! C11: the HTML5 tokenizer commutes with ASCII lower-casing of its input (the only case-sensitive
marker is `[CDATA[`). Each state function is unfolded, the scanning primitives are rewritten from the
lower-cased input to the original one, and the two sides are then walked through in step. -/
namespace LibInj.H5
open LibInj

abbrev L (s : Bytes) : Bytes := s.map lowerAscii

def lowerH (h : H) : H := { h with s := L h.s }

def mapR (r : M (Bool × H)) : M (Bool × H) := r.map (fun p => (p.1, lowerH p.2))

/-! ### bytes

`lowerAscii` moves only `A`..`Z` (`caseBlind`): a byte class that agrees on the two forms of each letter does not see it. -/

theorem lower_idem (x : UInt8) : lowerAscii (lowerAscii x) = lowerAscii x := caseBlind lowerAscii (by decide +kernel) x

/-- a byte that no letter lower-cases to -/
def NonLetter (k : UInt8) : Prop := ∀ x, (lowerAscii x == k) = (x == k)

theorem nonLetter_of (k : UInt8) (h : (isLowerAscii k || isUpperAscii k) = false) : NonLetter k := by
  intro x
  rw [Bool.eq_iff_iff, beq_iff_eq, beq_iff_eq]
  exact ⟨eq_of_lower_eq_nonletter x k h, fun e => by rw [e, lower_fixed_of_nonletter k h]⟩

theorem nl (k : UInt8) (h : (isLowerAscii k || isUpperAscii k) = false) (x : UInt8) : (lowerAscii x == k) = (x == k) :=
  nonLetter_of k h x
theorem nl_ne (k : UInt8) (h : (isLowerAscii k || isUpperAscii k) = false) (x : UInt8) : (lowerAscii x != k) = (x != k) := by
  simp only [bne, nl k h x]

theorem p_h5White (x : UInt8) : isH5White (lowerAscii x) = isH5White x := caseBlind isH5White (by decide +kernel) x
theorem p_skipWhite (x : UInt8) : isSkipWhite (lowerAscii x) = isSkipWhite x := caseBlind isSkipWhite (by decide +kernel) x
theorem p_tagName (x : UInt8) : tagNameByte (lowerAscii x) = tagNameByte x := by
  simp only [tagNameByte, p_h5White, nl 47 (by decide), nl 62 (by decide)]
theorem p_attrName (x : UInt8) : attrNameByte (lowerAscii x) = attrNameByte x := by
  simp only [attrNameByte, p_h5White, nl 47 (by decide), nl 61 (by decide), nl 62 (by decide)]
theorem p_noQuote (x : UInt8) : noQuoteByte (lowerAscii x) = noQuoteByte x := by
  simp only [noQuoteByte, p_h5White, nl 62 (by decide)]
theorem p_isNul (x : UInt8) : isNul (lowerAscii x) = isNul x := nl 0 (by decide) x
theorem p_alpha (x : UInt8) : isAlpha (lowerAscii x) = isAlpha x := caseBlind isAlpha (by decide +kernel) x

/-! ### the scanning primitives on the lower-cased input -/

theorem L_length (s : Bytes) : (L s).length = s.length := by simp [L]
theorem L_drop (s : Bytes) (p : Nat) : (L s).drop p = L (s.drop p) := by simp [L, List.map_drop]
theorem L_take (s : Bytes) (p : Nat) : (L s).take p = L (s.take p) := by simp [L, List.map_take]
theorem L_get (s : Bytes) (i : Nat) : (L s)[i]? = (s[i]?).map lowerAscii := by simp [L]

theorem caseEq_L (t : Bytes) : CaseEq (L t) t := by
  unfold CaseEq L
  simp [List.map_map, Function.comp_def, lower_idem]

theorem indexByte_L (k : UInt8) (hk : NonLetter k) : ∀ (s : Bytes), indexByte (L s) k = indexByte s k
  | [] => rfl
  | x :: xs => by
    simp only [L, List.map_cons, indexByte, hk x]
    rw [show xs.map lowerAscii = L xs from rfl, indexByte_L k hk xs]

theorem spn_L (p : UInt8 → Bool) (hp : ∀ x, p (lowerAscii x) = p x) : ∀ (s : Bytes), spn p (L s) = spn p s
  | [] => rfl
  | x :: xs => by
    simp only [L, List.map_cons, spn, hp x]
    rw [show xs.map lowerAscii = L xs from rfl, spn_L p hp xs]

theorem offFrom_L (s : Bytes) (i : Nat) : offFrom (L s) i = offFrom s i := by simp [offFrom]

theorem at'_L (s : Bytes) (i : Nat) : at' (L s) i = (at' s i).map lowerAscii := by
  unfold at'
  rw [L_get]
  cases s[i]? <;> rfl

theorem lowerH_s (h : H) : (lowerH h).s = L h.s := rfl
theorem lowerH_pos (h : H) : (lowerH h).pos = h.pos := rfl
theorem lowerH_emit (h : H) (a b : Nat) (ty : Ty) (p : Nat) (st : St) : emit (lowerH h) a b ty p st = lowerH (emit h a b ty p st) := rfl

theorem skipWhite_L (h : H) : skipWhite (lowerH h) = (lowerH (skipWhite h).1, (skipWhite h).2.map lowerAscii) := by
  unfold skipWhite
  simp only [lowerH_s, lowerH_pos, L_drop, spn_L isSkipWhite p_skipWhite, L_get]
  rfl

/-! ### walking through two computations in step -/

theorem ok_bind {α β : Type} (a : α) (f : α → M β) : (Except.ok a : M α) >>= f = f a := rfl

theorem map_bind {α β γ : Type} (x : M α) (m : α → β) (f : β → M γ) : x.map m >>= f = x >>= fun a => f (m a) := by
  cases x <;> rfl

theorem bind_eq_map {α β γ : Type} {m : β → γ} {x : M α} {f : α → M γ} {g : α → M β} (h : ∀ a, f a = (g a).map m) :
    x >>= f = (x >>= g).map m := by
  cases x with
  | error e => rfl
  | ok a => exact h a

theorem ite_eq_map {β γ : Type} {m : β → γ} {c : Prop} [Decidable c] {A B : M γ} {A' B' : M β} (hA : A = A'.map m)
    (hB : B = B'.map m) : (if c then A else B) = (if c then A' else B').map m := by
  split
  · exact hA
  · exact hB

/-! ### the state functions -/

theorem stateBogusComment_L (h : H) : stateBogusComment (lowerH h) = mapR (stateBogusComment h) := by
  unfold stateBogusComment
  simp only [lowerH_s, lowerH_pos, offFrom_L, L_drop, indexByte_L 62 (nl 62 (by decide)), L_length]
  refine bind_eq_map (fun start => ?_)
  cases indexByte (h.s.drop h.pos) 62 <;> rfl

theorem bogus2Loop_L (h : H) : ∀ (fuel pos : Nat), bogus2Loop (lowerH h) pos fuel = mapR (bogus2Loop h pos fuel)
  | 0, _ => rfl
  | fuel + 1, pos => by
    unfold bogus2Loop
    simp only [lowerH_s, lowerH_pos, offFrom_L, L_drop, indexByte_L 37 (nl 37 (by decide)), L_length, at'_L, map_bind,
      nl_ne 62 (by decide)]
    refine bind_eq_map (fun _ => ?_)
    cases indexByte (h.s.drop pos) 37 with
    | none => exact bind_eq_map (fun _ => rfl)
    | some index =>
      refine ite_eq_map (bind_eq_map (fun _ => rfl)) ?_
      refine bind_eq_map (fun c => ?_)
      exact ite_eq_map (bogus2Loop_L h fuel _) (bind_eq_map (fun _ => rfl))

theorem stateBogusComment2_L (h : H) : stateBogusComment2 (lowerH h) = mapR (stateBogusComment2 h) := by
  unfold stateBogusComment2
  rw [lowerH_s, L_length]; exact bogus2Loop_L h _ _

theorem stateDoctype_L (h : H) : stateDoctype (lowerH h) = mapR (stateDoctype h) := by
  unfold stateDoctype
  simp only [lowerH_s, lowerH_pos, offFrom_L, L_drop, indexByte_L 62 (nl 62 (by decide)), L_length]
  refine bind_eq_map (fun start => ?_)
  cases indexByte (h.s.drop h.pos) 62 <;> rfl

theorem stateTagNameClose_L (h : H) : stateTagNameClose (lowerH h) = mapR (stateTagNameClose h) := by
  unfold stateTagNameClose
  simp only [lowerH_s, lowerH_pos, offFrom_L, L_length]
  exact bind_eq_map (fun _ => rfl)

theorem commentLoop_L (h : H) : ∀ (fuel pos : Nat), commentLoop (lowerH h) pos fuel = mapR (commentLoop h pos fuel)
  | 0, _ => rfl
  | fuel + 1, pos => by
    unfold commentLoop
    simp only [lowerH_s, lowerH_pos, offFrom_L, L_drop, indexByte_L 45 (nl 45 (by decide)), L_length, at'_L, map_bind,
      spn_L isNul p_isNul, nl_ne 45 (by decide), nl_ne 33 (by decide), nl_ne 62 (by decide)]
    refine bind_eq_map (fun _ => ?_)
    cases indexByte (h.s.drop pos) 45 with
    | none => exact bind_eq_map (fun _ => rfl)
    | some index =>
      refine ite_eq_map (bind_eq_map (fun _ => rfl)) ?_
      refine ite_eq_map (bind_eq_map (fun _ => rfl)) ?_
      refine bind_eq_map (fun ch => ?_)
      refine ite_eq_map (commentLoop_L h fuel _) ?_
      refine ite_eq_map (bind_eq_map (fun _ => rfl)) ?_
      refine bind_eq_map (fun c2 => ?_)
      exact ite_eq_map (commentLoop_L h fuel _) (bind_eq_map (fun _ => rfl))

theorem stateComment_L (h : H) : stateComment (lowerH h) = mapR (stateComment h) := by
  unfold stateComment
  rw [lowerH_s, L_length]; exact commentLoop_L h _ _

theorem cdataLoop_L (h : H) : ∀ (fuel pos : Nat), cdataLoop (lowerH h) pos fuel = mapR (cdataLoop h pos fuel)
  | 0, _ => rfl
  | fuel + 1, pos => by
    unfold cdataLoop
    simp only [lowerH_s, lowerH_pos, offFrom_L, L_drop, indexByte_L 93 (nl 93 (by decide)), L_length, at'_L, map_bind,
      nl 93 (by decide), nl 62 (by decide)]
    refine bind_eq_map (fun _ => ?_)
    cases indexByte (h.s.drop pos) 93 with
    | none => exact bind_eq_map (fun _ => rfl)
    | some index =>
      refine ite_eq_map (bind_eq_map (fun _ => rfl)) ?_
      refine bind_eq_map (fun c1 => ?_)
      refine bind_eq_map (fun isEnd => ?_)
      exact ite_eq_map (bind_eq_map (fun _ => rfl)) (cdataLoop_L h fuel _)

theorem stateCData_L (h : H) : stateCData (lowerH h) = mapR (stateCData h) := by
  unfold stateCData
  rw [lowerH_s, L_length]; exact cdataLoop_L h _ _

theorem stateTagName_L (h : H) : stateTagName (lowerH h) = mapR (stateTagName h) := by
  unfold stateTagName
  simp only [lowerH_s, lowerH_pos, offFrom_L, L_drop, spn_L tagNameByte p_tagName, L_length, L_get]
  refine bind_eq_map (fun start => ?_)
  cases h.s[h.pos + spn tagNameByte (h.s.drop h.pos)]? with
  | none => rfl
  | some ch =>
    simp only [Option.map_some, p_h5White, nl 47 (by decide)]
    refine ite_eq_map rfl ?_
    refine ite_eq_map rfl ?_
    exact ite_eq_map rfl rfl

theorem stateAttributeName_L (h : H) : stateAttributeName (lowerH h) = mapR (stateAttributeName h) := by
  unfold stateAttributeName
  simp only [lowerH_s, lowerH_pos, offFrom_L, L_drop, spn_L attrNameByte p_attrName, L_length, L_get]
  refine bind_eq_map (fun start => ?_)
  cases h.s[h.pos + 1 + spn attrNameByte (h.s.drop (h.pos + 1))]? with
  | none => rfl
  | some ch =>
    simp only [Option.map_some, p_h5White, nl 47 (by decide), nl 61 (by decide)]
    refine ite_eq_map rfl ?_
    refine ite_eq_map rfl ?_
    exact ite_eq_map rfl rfl

theorem stateAttributeValueNoQuote_L (h : H) : stateAttributeValueNoQuote (lowerH h) = mapR (stateAttributeValueNoQuote h) := by
  unfold stateAttributeValueNoQuote
  simp only [lowerH_s, lowerH_pos, offFrom_L, L_drop, spn_L noQuoteByte p_noQuote, L_length, L_get]
  refine bind_eq_map (fun start => ?_)
  cases h.s[h.pos + spn noQuoteByte (h.s.drop h.pos)]? with
  | none => rfl
  | some ch =>
    simp only [Option.map_some, p_h5White]
    exact ite_eq_map rfl rfl

theorem stateAttributeValueQuote_L (q : UInt8) (hq : NonLetter q) (h : H) :
    stateAttributeValueQuote q (lowerH h) = mapR (stateAttributeValueQuote q h) := by
  unfold stateAttributeValueQuote
  by_cases hp : h.pos > 0 <;>
  · simp only [lowerH_pos, hp, ↓reduceIte, lowerH_s, offFrom_L, L_drop, indexByte_L q hq, L_length]
    refine bind_eq_map (fun start => ?_)
    cases indexByte _ q <;> rfl

theorem stateBeforeAttributeValue_L (h : H) : stateBeforeAttributeValue (lowerH h) = mapR (stateBeforeAttributeValue h) := by
  unfold stateBeforeAttributeValue
  rw [skipWhite_L]
  generalize skipWhite h = sw
  obtain ⟨h1, ch⟩ := sw
  cases ch with
  | none => rfl
  | some c =>
    simp only [Option.map_some, nl 34 (by decide), nl 39 (by decide), nl 96 (by decide)]
    refine ite_eq_map (stateAttributeValueQuote_L 34 (nl 34 (by decide)) h1) ?_
    refine ite_eq_map (stateAttributeValueQuote_L 39 (nl 39 (by decide)) h1) ?_
    exact ite_eq_map (stateAttributeValueQuote_L 96 (nl 96 (by decide)) h1) (stateAttributeValueNoQuote_L h1)

theorem banLoop_L : ∀ (fuel : Nat) (h : H),
    banLoop (lowerH h) fuel = (banLoop h fuel).map (fun p => (lowerH p.1, p.2.1.map lowerAscii, p.2.2))
  | 0, _ => rfl
  | fuel + 1, h => by
    unfold banLoop
    simp only [lowerH_s, lowerH_pos, L_length, skipWhite_L]
    refine ite_eq_map ?_ rfl
    generalize skipWhite h = sw
    obtain ⟨h1, ch⟩ := sw
    cases ch with
    | none => rfl
    | some c =>
      simp only [Option.map_some, nl 47 (by decide), L_get]
      refine ite_eq_map ?_ rfl
      cases (h1.s)[h1.pos + 1]? with
      | none => rfl
      | some c2 =>
        simp only [Option.map_some, nl_ne 62 (by decide)]
        exact ite_eq_map (banLoop_L fuel { h1 with pos := h1.pos + 1 }) rfl

theorem selfClosing_beforeAttrName_L : ∀ (d : Nat) (h : H),
    stateSelfClosingStartTag d (lowerH h) = mapR (stateSelfClosingStartTag d h) ∧
    stateBeforeAttributeName d (lowerH h) = mapR (stateBeforeAttributeName d h)
  | 0, _ => ⟨by unfold stateSelfClosingStartTag; rfl, by unfold stateBeforeAttributeName; rfl⟩
  | d + 1, h => by
    constructor
    · unfold stateSelfClosingStartTag
      simp only [lowerH_s, lowerH_pos, L_length, at'_L, map_bind, nl 62 (by decide)]
      refine ite_eq_map rfl ?_
      refine bind_eq_map (fun ch => ?_)
      exact ite_eq_map (ite_eq_map rfl rfl) (selfClosing_beforeAttrName_L d h).2
    · unfold stateBeforeAttributeName
      simp only [lowerH_s, lowerH_pos, L_length, banLoop_L, map_bind, offFrom_L]
      refine bind_eq_map (fun r => ?_)
      obtain ⟨h1, ch, slash⟩ := r
      refine ite_eq_map (selfClosing_beforeAttrName_L d h1).1 ?_
      cases ch with
      | none => rfl
      | some c =>
        simp only [Option.map_some, nl 62 (by decide)]
        exact ite_eq_map (bind_eq_map (fun _ => rfl)) (stateAttributeName_L h1)

theorem stateSelfClosingStartTag_L (d : Nat) (h : H) : stateSelfClosingStartTag d (lowerH h) = mapR (stateSelfClosingStartTag d h) :=
  (selfClosing_beforeAttrName_L d h).1
theorem stateBeforeAttributeName_L (d : Nat) (h : H) : stateBeforeAttributeName d (lowerH h) = mapR (stateBeforeAttributeName d h) :=
  (selfClosing_beforeAttrName_L d h).2

theorem stateAfterAttributeName_L (h : H) : stateAfterAttributeName (lowerH h) = mapR (stateAfterAttributeName h) := by
  unfold stateAfterAttributeName
  rw [skipWhite_L]
  generalize skipWhite h = sw
  obtain ⟨h1, ch⟩ := sw
  cases ch with
  | none => rfl
  | some c =>
    simp only [Option.map_some, nl 47 (by decide), nl 61 (by decide), nl 62 (by decide)]
    refine ite_eq_map (stateSelfClosingStartTag_L _ { h1 with pos := h1.pos + 1 }) ?_
    refine ite_eq_map (stateBeforeAttributeValue_L { h1 with pos := h1.pos + 1 }) ?_
    exact ite_eq_map (stateTagNameClose_L h1) (stateAttributeName_L h1)

theorem stateAfterAttributeValueQuotedState_L (h : H) :
    stateAfterAttributeValueQuotedState (lowerH h) = mapR (stateAfterAttributeValueQuotedState h) := by
  unfold stateAfterAttributeValueQuotedState
  simp only [lowerH_s, lowerH_pos, L_length, at'_L, map_bind, offFrom_L, p_h5White, nl 47 (by decide), nl 62 (by decide)]
  refine ite_eq_map rfl ?_
  refine bind_eq_map (fun ch => ?_)
  refine ite_eq_map (stateBeforeAttributeName_L _ { h with pos := h.pos + 1 }) ?_
  refine ite_eq_map (stateSelfClosingStartTag_L _ { h with pos := h.pos + 1 }) ?_
  exact ite_eq_map (bind_eq_map (fun _ => rfl)) (stateBeforeAttributeName_L _ h)

/-- the input has no (case-sensitive) `[CDATA[` marker anywhere -/
def NoCdata (s : Bytes) : Prop := ∀ p, (s.drop p).take 7 ≠ cdataOpen

theorem goLower_L (t : Bytes) : goLowerAscii (L t) = goLowerAscii t := by
  simp [goLowerAscii, L, List.map_map, Function.comp_def, lower_idem]

/-- the second byte of `[CDATA[` is an upper-case letter, which lower-casing moves -/
theorem L_ne_cdata (t : Bytes) : (L t == cdataOpen) = false := by
  cases ht : L t == cdataOpen with
  | false => rfl
  | true =>
    have e : L t = cdataOpen := by simpa using ht
    have h1 : (L t)[1]? = some 67 := by rw [e]; rfl
    rw [L_get] at h1
    cases h2 : t[1]? with
    | none => simp [h2] at h1
    | some x =>
      simp only [h2, Option.map_some, Option.some.injEq] at h1
      have := lower_idem x
      rw [h1] at this
      exact absurd this (by decide)

theorem L_dashes : ∀ (t : Bytes), (L t == [45, 45]) = (t == [45, 45])
  | [] => rfl
  | [a] => by simp [L]
  | [a, b] => by
    simp only [L, List.map_cons, List.map_nil]
    have ha := nl 45 (by decide) a
    have hb := nl 45 (by decide) b
    simp only [List.cons_beq_cons, ha, hb]
  | a :: b :: c :: r => by simp [L]

theorem stateMarkupDeclarationOpen_L (h : H) (hno : NoCdata h.s) :
    stateMarkupDeclarationOpen (lowerH h) = mapR (stateMarkupDeclarationOpen h) := by
  unfold stateMarkupDeclarationOpen
  have hc : ((h.s.drop h.pos).take 7 == cdataOpen) = false := by simpa using hno h.pos
  simp only [lowerH_s, lowerH_pos, L_length, L_drop, L_take, goLower_L, L_ne_cdata, L_dashes, hc, Bool.and_false,
    Bool.false_eq_true, ↓reduceIte]
  refine ite_eq_map (stateDoctype_L h) ?_
  exact ite_eq_map (stateComment_L { h with pos := h.pos + 2 }) (stateBogusComment_L h)

theorem endTag_tagOpen_data_L : ∀ (d : Nat) (h : H), NoCdata h.s →
    stateEndTagOpen d (lowerH h) = mapR (stateEndTagOpen d h) ∧
    stateTagOpen d (lowerH h) = mapR (stateTagOpen d h) ∧
    stateData d (lowerH h) = mapR (stateData d h)
  | 0, _, _ => ⟨by unfold stateEndTagOpen; rfl, by unfold stateTagOpen; rfl, by unfold stateData; rfl⟩
  | d + 1, h, hno => by
    have ih := endTag_tagOpen_data_L d
    refine ⟨?_, ?_, ?_⟩
    · unfold stateEndTagOpen
      simp only [lowerH_s, lowerH_pos, L_length, at'_L, map_bind, nl 62 (by decide), p_alpha]
      refine ite_eq_map rfl ?_
      refine bind_eq_map (fun ch => ?_)
      refine ite_eq_map (ih h hno).2.2 ?_
      exact ite_eq_map (stateTagName_L h) (stateBogusComment_L { h with isClose := false })
    · unfold stateTagOpen
      simp only [lowerH_s, lowerH_pos, L_length, at'_L, map_bind, nl 33 (by decide), nl 47 (by decide), nl 63 (by decide),
        nl 37 (by decide), nl 0 (by decide), p_alpha]
      refine ite_eq_map rfl ?_
      refine bind_eq_map (fun ch => ?_)
      refine ite_eq_map (stateMarkupDeclarationOpen_L { h with pos := h.pos + 1 } hno) ?_
      refine ite_eq_map (ih { h with pos := h.pos + 1, isClose := true } hno).1 ?_
      refine ite_eq_map (stateBogusComment_L { h with pos := h.pos + 1 }) ?_
      refine ite_eq_map (stateBogusComment2_L { h with pos := h.pos + 1 }) ?_
      refine ite_eq_map (stateTagName_L h) ?_
      refine ite_eq_map (stateTagName_L h) ?_
      exact ite_eq_map (ih h hno).2.2 rfl
    · unfold stateData
      simp only [lowerH_s, lowerH_pos, offFrom_L, L_drop, indexByte_L 60 (nl 60 (by decide)), L_length]
      refine bind_eq_map (fun start => ?_)
      cases indexByte (h.s.drop h.pos) 60 with
      | none => rfl
      | some i => exact ite_eq_map (ih (emit h start i .dataText (h.pos + i + 1) .tagOpen) hno).2.1 rfl

theorem next_L (h : H) (hno : NoCdata h.s) : next (lowerH h) = mapR (next h) := by
  unfold next
  rw [show (lowerH h).state = h.state from rfl]
  cases h.state <;> simp only []
  · rfl
  · exact (endTag_tagOpen_data_L _ h hno).2.2
  · exact (endTag_tagOpen_data_L _ h hno).2.1
  · exact stateBeforeAttributeName_L _ h
  · exact stateSelfClosingStartTag_L _ h
  · exact stateTagNameClose_L h
  · exact stateAfterAttributeName_L h
  · exact stateBeforeAttributeValue_L h
  · exact stateAfterAttributeValueQuotedState_L h
  · exact stateAttributeValueQuote_L 39 (nl 39 (by decide)) h
  · exact stateAttributeValueQuote_L 34 (nl 34 (by decide)) h
  · exact stateAttributeValueQuote_L 96 (nl 96 (by decide)) h

end LibInj.H5
