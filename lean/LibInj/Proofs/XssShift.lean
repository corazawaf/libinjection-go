import LibInj.Proofs.H5Shift
import LibInj.Xss.IsXSS
/-! C13: the `isXSS` loop gives the same verdict on a machine state and on the same state over a longer
input whose extra bytes were prepended (positions shifted). -/
namespace LibInj.Xss
open LibInj LibInj.H5

theorem slice_sh (t s : Bytes) (a l : Nat) :
    slice (t ++ s) (a + t.length) (a + t.length + l) = slice s a (a + l) := by
  unfold slice
  rw [len_sh]
  by_cases h : a ≤ a + l ∧ a + l ≤ s.length
  · rw [if_pos h, if_pos (by omega), drop_sh]
    congr 2; omega
  · rw [if_neg h, if_neg (by omega)]

@[simp] theorem shiftH_s (t : Bytes) (h : H) : (shiftH t h).s = t ++ h.s := rfl
@[simp] theorem shiftH_tokStart (t : Bytes) (h : H) : (shiftH t h).tokStart = h.tokStart + t.length := rfl
@[simp] theorem shiftH_tokLen (t : Bytes) (h : H) : (shiftH t h).tokLen = h.tokLen := rfl
@[simp] theorem shiftH_tokType (t : Bytes) (h : H) : (shiftH t h).tokType = h.tokType := rfl

theorem commentIsXSS_sh (t : Bytes) (h : H) : commentIsXSS (shiftH t h) = commentIsXSS h := by
  unfold commentIsXSS
  simp only [shiftH_s, shiftH_tokStart, shiftH_tokLen, slice_sh, off_sh, drop_sh]

theorem xssLoop_step_sh (t : Bytes) (X h : H) (attr fuel fuel' : Nat) (hi : Inv h) (hsh : Sh t (next X) (next h))
    (ih : ∀ (h' : H) (attr' : Nat), Inv h' → ShOK h' → mu h' < mu h → xssLoop (shiftH t h') attr' fuel' = xssLoop h' attr' fuel) :
    xssLoop X attr (fuel' + 1) = xssLoop h attr (fuel + 1) := by
  obtain ⟨bb, h', hn, hs, hrest⟩ := next_spec h hi
  rw [hn] at hsh
  unfold xssLoop
  cases bb with
  | false =>
    obtain ⟨x, hx⟩ := sh_ok_false t _ _ hsh
    rw [hx, hn]; rfl
  | true =>
    obtain ⟨hmu, hinv, _, _⟩ := hrest rfl
    have ih' := fun attr' => ih h' attr' hinv (next_shok h hi h' hn) hmu
    rw [sh_ok_true t _ _ hsh, hn]
    simp only [bind, Except.bind, pure, Except.pure, Bool.not_true, Bool.false_eq_true, ↓reduceIte,
      shiftH_s, shiftH_tokStart, shiftH_tokLen, shiftH_tokType, slice_sh, commentIsXSS_sh, ih']
    rfl

theorem xssLoop_sh (t : Bytes) : ∀ (fuel fuel' : Nat) (a b : Nat) (c : Ty) (h : H) (attr : Nat),
    Inv h → ShOK h → mu h < fuel → mu h < fuel' →
    xssLoop (shiftG t a b c h) attr fuel' = xssLoop h attr fuel
  | 0, _, _, _, _, _, _, _, _, hf, _ => by omega
  | _ + 1, 0, _, _, _, _, _, _, _, _, hf => by omega
  | fuel + 1, fuel' + 1, a, b, c, h, attr, hi, ho, hf, hf' =>
    xssLoop_step_sh t _ h attr fuel fuel' hi (next_sh h hi.1 ho)
      (fun h' attr' hinv ho' hmu => xssLoop_sh t fuel fuel' _ _ _ h' attr' hinv ho' (by omega) (by omega))

theorem xssLoop_of_next_sh (t : Bytes) (X h : H) (attr fuel fuel' : Nat) (hi : Inv h)
    (hsh : Sh t (next X) (next h)) (hf : mu h < fuel + 1) (hf' : mu h < fuel' + 1) :
    xssLoop X attr (fuel' + 1) = xssLoop h attr (fuel + 1) :=
  xssLoop_step_sh t X h attr fuel fuel' hi hsh
    (fun h' attr' hinv ho' hmu => xssLoop_sh t fuel fuel' _ _ _ h' attr' hinv ho' (by omega) (by omega))

theorem xssLoop_eof (h : H) (hs : h.state = .eof) (attr fuel : Nat) : xssLoop h attr (fuel + 1) = .ok false := by
  unfold xssLoop next
  rw [hs]
  rfl

theorem xssLoop_text (h h' : H) (attr fuel : Nat) (hn : next h = .ok (true, h')) (ht : h'.tokType = .dataText) :
    xssLoop h attr (fuel + 1) = xssLoop h' 0 fuel := by
  conv => lhs; unfold xssLoop
  rw [hn]
  simp only [bind, Except.bind, Bool.not_true, Bool.false_eq_true, ↓reduceIte, ht]
  rfl

theorem stateData_some (d : Nat) (h : H) (i : Nat) (hp : h.pos ≤ h.s.length) (hi : indexByte (h.s.drop h.pos) 60 = some i) :
    stateData (d + 1) h = (if (i == 0) = true then stateTagOpen d (emit h h.pos i .dataText (h.pos + i + 1) .tagOpen)
      else .ok (true, emit h h.pos i .dataText (h.pos + i + 1) .tagOpen)) := by
  unfold stateData
  simp only [offFrom_ok hp, hi, bind, Except.bind, pure, Except.pure]

theorem stateData_none (d : Nat) (h : H) (hp : h.pos ≤ h.s.length) (hi : indexByte (h.s.drop h.pos) 60 = none) :
    stateData (d + 1) h = .ok (h.s.length - h.pos != 0,
      { h with tokStart := h.pos, tokLen := h.s.length - h.pos, tokType := .dataText, state := .eof }) := by
  unfold stateData
  simp only [offFrom_ok hp, hi, bind, Except.bind, pure, Except.pure]

theorem isXSSCtx_noLT (s : Bytes) (hi : indexByte s 60 = none) : isXSSCtx s 0 = .ok false := by
  unfold isXSSCtx xssFuel
  have hn : next (init s 0) = .ok (s.length - 0 != 0,
      { init s 0 with tokStart := 0, tokLen := s.length - 0, tokType := .dataText, state := .eof }) :=
    stateData_none 5 (init s 0) (Nat.zero_le _) hi
  cases hb : (s.length - 0 != 0) with
  | false =>
    rw [hb] at hn
    show xssLoop (init s 0) 0 (3 * s.length + 3 + 1) = _
    unfold xssLoop
    rw [hn]; rfl
  | true =>
    rw [hb] at hn
    show xssLoop (init s 0) 0 (3 * s.length + 3 + 1) = _
    rw [xssLoop_text _ _ _ _ hn rfl]
    exact xssLoop_eof _ rfl 0 _

theorem isXSSCtx_firstLT (s : Bytes) (i : Nat) (hi : indexByte s 60 = some i) :
    ∃ fuel, 3 * s.length < fuel ∧
      isXSSCtx s 0 = xssLoop (emit (init s 0) 0 i .dataText (0 + i + 1) .tagOpen) 0 fuel := by
  have hlt : i < s.length := indexByte_lt hi
  have hS := stateData_some 5 (init s 0) i (Nat.zero_le _) hi
  by_cases hi0 : (i == 0) = true
  · -- the `<` comes first: `next` on the initial state and behind the `<` are the same call, at depths 5 and 6
    rw [if_pos hi0] at hS
    let h1 : H := emit (init s 0) 0 i .dataText (0 + i + 1) .tagOpen
    obtain ⟨b, h', hr, _⟩ := stateTagOpen_good 0 h1 (show 0 + i + 1 ≤ s.length by omega)
    refine ⟨3 * s.length + 3 + 1, by omega, ?_⟩
    show xssLoop (init s 0) 0 (3 * s.length + 3 + 1) = xssLoop h1 0 (3 * s.length + 3 + 1)
    unfold xssLoop
    rw [show next (init s 0) = next h1 from (hS.trans hr).trans ((depth_mono 5).2.1 h1 _ hr).symm]
  · rw [if_neg hi0] at hS
    exact ⟨3 * s.length + 3, by omega, xssLoop_text _ _ _ _ hS rfl⟩

theorem data_prefix (s t : Bytes) (ht : (60 : UInt8) ∉ t) : isXSSCtx (t ++ s) 0 = isXSSCtx s 0 := by
  have hit : indexByte (t ++ s) 60 = (indexByte s 60).map (· + t.length) := indexByte_append 60 s t ht
  cases hi : indexByte s 60 with
  | none => rw [isXSSCtx_noLT s hi, isXSSCtx_noLT (t ++ s) (by rw [hit, hi]; rfl)]
  | some i =>
    have hlt : i < s.length := indexByte_lt hi
    obtain ⟨f, hf, e⟩ := isXSSCtx_firstLT s i hi
    obtain ⟨f', hf', e'⟩ := isXSSCtx_firstLT (t ++ s) (i + t.length) (by rw [hit, hi]; rfl)
    rw [len_sh] at hf'
    -- behind the `<` the two runs are in the same state up to the shift
    rw [e, e', show emit (init (t ++ s) 0) 0 (i + t.length) .dataText (0 + (i + t.length) + 1) .tagOpen =
        shiftG t 0 (i + t.length) .dataText (emit (init s 0) 0 i .dataText (0 + i + 1) .tagOpen) from
      H_eq _ _ rfl (show 0 + (i + t.length) + 1 = 0 + i + 1 + t.length by omega) rfl rfl rfl rfl rfl]
    refine xssLoop_sh t f f' _ _ _ _ 0 ⟨show 0 + i + 1 ≤ s.length by omega, nofun, nofun, ?_⟩
      ⟨nofun, fun _ => show 1 ≤ 0 + i + 1 by omega, nofun, nofun, nofun, nofun⟩ ?_ ?_
    · rintro (h | h | h) <;> cases h
    · show 3 * (s.length - (0 + i + 1)) + 3 < f; omega
    · show 3 * (s.length - (0 + i + 1)) + 3 < f'; omega

/-! ### the harmless tag prefixes of the attribute contexts -/

theorem embed1_next (s : Bytes) :
    next (init ([60, 97, 32] ++ s) 0) = .ok (true, shiftG [60, 97, 32] 1 1 .tagNameOpen (init s 1)) := rfl

/-- `<a b=` followed by a quote `q`: the first two steps (the third is inside `embed_quote`) -/
theorem embedq_next1 (q : UInt8) (s : Bytes) :
    next (init ([60, 97, 32, 98, 61, q] ++ s) 0) =
      .ok (true, { s := [60, 97, 32, 98, 61, q] ++ s, pos := 3, state := .beforeAttrName, tokStart := 1, tokLen := 1, tokType := .tagNameOpen }) := rfl

theorem embedq_next2 (q : UInt8) (s : Bytes) :
    next { s := [60, 97, 32, 98, 61, q] ++ s, pos := 3, state := .beforeAttrName, tokStart := 1, tokLen := 1, tokType := .tagNameOpen } =
      .ok (true, { s := [60, 97, 32, 98, 61, q] ++ s, pos := 5, state := .beforeAttrValue, tokStart := 3, tokLen := 1, tokType := .attrName }) := rfl

theorem xssLoop_tag (h h' : H) (attr fuel : Nat) (v : Bytes) (hn : next h = .ok (true, h')) (ht : h'.tokType = .tagNameOpen)
    (hv : slice h'.s h'.tokStart (h'.tokStart + h'.tokLen) = .ok v) :
    xssLoop h attr (fuel + 1) = if isBlackTag v = true then .ok true else xssLoop h' 0 fuel := by
  conv => lhs; unfold xssLoop
  rw [hn]
  simp only [bind, Except.bind, pure, Except.pure, Bool.not_true, Bool.false_eq_true, ↓reduceIte, ht, hv]
  rfl

theorem xssLoop_attrName (h h' : H) (attr fuel : Nat) (v : Bytes) (hn : next h = .ok (true, h')) (ht : h'.tokType = .attrName)
    (hv : slice h'.s h'.tokStart (h'.tokStart + h'.tokLen) = .ok v) :
    xssLoop h attr (fuel + 1) = xssLoop h' (isBlackAttr v) fuel := by
  conv => lhs; unfold xssLoop
  rw [hn]
  simp only [bind, Except.bind, Bool.not_true, Bool.false_eq_true, ↓reduceIte, ht, hv]

theorem blackTag_a : isBlackTag [97] = false := by decide +kernel
theorem blackAttr_b : isBlackAttr [98] = 0 := by decide +kernel

theorem init1_shok (s : Bytes) : ShOK (init s 1) := by
  refine ⟨?_, ?_, ?_, ?_, ?_, ?_⟩ <;> (intro h; cases h)

theorem embed_ctx1 (s : Bytes) : isXSSCtx ([60, 97, 32] ++ s) 0 = isXSSCtx s 1 := by
  unfold isXSSCtx xssFuel
  have hF : 3 * ([60, 97, 32] ++ s).length + 4 = (3 * s.length + 12) + 1 := by
    rw [len_sh]; show 3 * (s.length + 3) + 4 = _; omega
  rw [hF, xssLoop_tag _ _ _ _ [97] (embed1_next s) rfl rfl, blackTag_a, if_neg Bool.false_ne_true]
  have hm : mu (init s 1) ≤ 3 * s.length + 3 := by
    show 3 * (s.length - 0) + 3 ≤ _
    omega
  exact xssLoop_sh _ _ _ _ _ _ (init s 1) 0 (init_inv s 1) (init1_shok s) (Nat.lt_succ_of_le hm) (by omega)

theorem beforeValue_quote (q : UInt8) (hq : q = 39 ∨ q = 34 ∨ q = 96) (h : H) (hp : 0 < h.pos) (hb : h.s[h.pos]? = some q) :
    stateBeforeAttributeValue h = valueQuoteCore q { h with pos := h.pos + 1 } := by
  have hnw : isSkipWhite q = false := by rcases hq with rfl | rfl | rfl <;> rfl
  have hw : skipWhite h = (h, some q) := by
    obtain ⟨hlt, e⟩ := List.getElem?_eq_some_iff.mp hb
    unfold skipWhite
    rw [List.drop_eq_getElem_cons hlt, e]
    simp only [spn, hnw, Bool.false_eq_true, ↓reduceIte, Nat.add_zero, hb]
  unfold stateBeforeAttributeValue
  rw [hw]
  rcases hq with rfl | rfl | rfl <;> simp only [valueQuote_eq, if_pos hp] <;> rfl

theorem embed_quote (q : UInt8) (c : Nat) (hc : c = 2 ∨ c = 3 ∨ c = 4) (hq : q = (if c = 2 then 39 else if c = 3 then 34 else 96))
    (s : Bytes) : isXSSCtx ([60, 97, 32, 98, 61, q] ++ s) 0 = isXSSCtx s c := by
  unfold isXSSCtx xssFuel
  have hF : 3 * ([60, 97, 32, 98, 61, q] ++ s).length + 4 = (3 * s.length + 19) + 1 + 1 + 1 := by
    rw [len_sh]; show 3 * (s.length + 6) + 4 = _; omega
  have hF2 : 3 * s.length + 4 = (3 * s.length + 3) + 1 := rfl
  rw [hF, hF2, xssLoop_tag _ _ _ _ [97] (embedq_next1 q s) rfl rfl, blackTag_a, if_neg Bool.false_ne_true,
    xssLoop_attrName _ _ _ _ [98] (embedq_next2 q s) rfl rfl, blackAttr_b]
  have hm : mu (init s c) ≤ 3 * s.length + 3 := by
    have := rank_le (init s c).state
    show 3 * (s.length - 0) + rank (init s c).state ≤ _
    omega
  refine xssLoop_of_next_sh [60, 97, 32, 98, 61, q] _ (init s c) 0 _ _ (init_inv s c) ?_ (by omega) (by omega)
  -- third step: over the quote on the one side, the initial state of the quoted context on the other
  have hq' : q = 39 ∨ q = 34 ∨ q = 96 := by rcases hc with rfl | rfl | rfl <;> simp [hq]
  have e2 : next (init s c) = valueQuoteCore q { s := s, state := .beforeAttrValue } := by
    rcases hc with rfl | rfl | rfl <;> subst hq <;> rfl
  show Sh _ (stateBeforeAttributeValue _) _
  rw [beforeValue_quote q hq' _ (Nat.succ_pos 4) rfl, e2]
  exact valueQuoteCore_sh (a := 3) (b := 1) (c := .attrName) q { s := s, state := .beforeAttrValue }

end LibInj.Xss
