import LibInj.Proofs.FoldBase
/-! Safety of `fold`, part 2: the termination measure of the main loop, the relation "this stage only
rewrote the window", and the token-count-conditional invariant behind `notWhitelist`'s raw reads of
the input (C01). -/
namespace LibInj.Sqli
open LibInj

/-! ## measure -/

/-- weight of a token class: every in-place re-categorisation rule of `fold` lowers it
(`k → o|n`, `n|v → f`, `o → f`, `f → T`, `n → t`, `n → X`, `\ → 1`), except `f → n` (the `USER(` rule),
which moves `left` forward instead -/
def wcat (c : UInt8) : Nat :=
  if c = 107 then 22 else if c = 110 ∨ c = 118 ∨ c = 111 then 21 else if c = 102 ∨ c = 92 then 20 else 0

theorem wcat_le (c : UInt8) : wcat c ≤ 22 := by
  unfold wcat; split
  · omega
  · split
    · omega
    · split <;> omega

/-- total weight of the first `p` tokens of the window -/
def phi : List Token → Nat → Nat
  | [], _ => 0
  | _ :: _, 0 => 0
  | t :: ts, p + 1 => wcat t.cat + phi ts p

theorem phi_le : ∀ (tv : List Token) (p : Nat), phi tv p ≤ 22 * p
  | [], _ => by simp [phi]
  | _ :: _, 0 => by simp [phi]
  | t :: ts, p + 1 => by
    have := phi_le ts p
    have := wcat_le t.cat
    simp only [phi]; omega

theorem phi_set : ∀ (tv : List Token) (p i : Nat) (a t : Token), tv[i]? = some a → i < p →
    phi (tv.set i t) p + wcat a.cat = phi tv p + wcat t.cat
  | [], _, _, _, _, h, _ => by simp at h
  | x :: xs, 0, _, _, _, _, hi => by omega
  | x :: xs, p + 1, 0, a, t, h, _ => by
    have : x = a := by simpa using h
    subst this
    simp only [List.set_cons_zero, phi]; omega
  | x :: xs, p + 1, i + 1, a, t, h, hi => by
    have h' : xs[i]? = some a := by simpa using h
    have := phi_set xs p i a t h' (by omega)
    simp only [List.set_cons_succ, phi]; omega

def mu (f : FS) : Nat := phi f.s.tv f.pos + 2 * (f.pos - f.left)

theorem mu_le (f : FS) (hp : f.pos ≤ 6) : mu f ≤ 144 := by
  have := phi_le f.s.tv f.pos
  unfold mu; omega

/-- the measure of the main loop: unread input, then window size, then weights and distance -/
def bigM (f : FS) : Nat := (f.s.input.length - f.s.pos) * 1015 + f.pos * 145 + mu f

/-! ## a stage that only rewrites the window -/

def isNum (t : Token) : Prop := t.cat = 49 ∨ t.cat = 92

theorem not_isNum {t : Token} {c : UInt8} (e : t.cat = c) (hc : c ≠ 49 ∧ c ≠ 92) : ¬ isNum t :=
  fun h => h.elim (fun h => hc.1 (e ▸ h)) fun h => hc.2 (e ▸ h)

/-- a token of the new window: an old one, or a new one that is neither a comment nor (unless it
re-categorises an old number-like token in place) number-like -/
def Derived (tv : List Token) (t' : Token) : Prop :=
  t' ∈ tv ∨ (t'.cat ≠ 99 ∧ (isNum t' → ∃ t ∈ tv, isNum t ∧ t.pos = t'.pos ∧ t.len = t'.len))

def Evol (f f' : FS) : Prop :=
  f'.s.input = f.s.input ∧ f'.s.pos = f.s.pos ∧ f'.s.toks = f.s.toks ∧ f'.lastComment = f.lastComment ∧
  f'.more = f.more ∧ ∀ t' ∈ f'.s.tv, Derived f.s.tv t'

theorem Evol.refl (f : FS) : Evol f f := ⟨rfl, rfl, rfl, rfl, rfl, fun _ h => Or.inl h⟩

theorem Evol.trans {f g h : FS} (h1 : Evol f g) (h2 : Evol g h) : Evol f h := by
  obtain ⟨a1, a2, a3, a4, a5, a6⟩ := h1
  obtain ⟨b1, b2, b3, b4, b5, b6⟩ := h2
  refine ⟨b1.trans a1, b2.trans a2, b3.trans a3, b4.trans a4, b5.trans a5, ?_⟩
  intro t'' ht''
  rcases b6 t'' ht'' with hm | ⟨hc, hn⟩
  · exact a6 t'' hm
  · right
    refine ⟨hc, fun hnum => ?_⟩
    obtain ⟨t', ht', hn', hp', hl'⟩ := hn hnum
    rcases a6 t' ht' with hm | ⟨_, hn2⟩
    · exact ⟨t', hm, hn', hp', hl'⟩
    · obtain ⟨t, ht, hn3, hp3, hl3⟩ := hn2 hn'
      exact ⟨t, ht, hn3, hp3.trans hp', hl3.trans hl'⟩

theorem derived_mem {tv : List Token} {i : Nat} {t : Token} (h : tv[i]? = some t) : Derived tv t :=
  Or.inl (List.mem_of_getElem? h)

theorem derived_new {tv : List Token} {t : Token} (h : t.cat ≠ 49 ∧ t.cat ≠ 92 ∧ t.cat ≠ 99) : Derived tv t :=
  Or.inr ⟨h.2.2, fun hn => (hn.elim h.1 h.2.1).elim⟩

theorem derived_recat {tv : List Token} (t : Token) {c : UInt8} (h : c ≠ 49 ∧ c ≠ 92 ∧ c ≠ 99) :
    Derived tv { t with cat := c } := derived_new h

/-- the `\ → 1` rule -/
theorem derived_num {tv : List Token} {i : Nat} {t : Token} (h : tv[i]? = some t) (hn : isNum t) :
    Derived tv { t with cat := 49 } :=
  Or.inr ⟨by show (49 : UInt8) ≠ 99; decide, fun _ => ⟨t, List.mem_of_getElem? h, hn, rfl, rfl⟩⟩

/-! ## the shape every rewrite rule of `fold` has -/

/-- the loop variables after a rule: a new window and fold count, new `pos` and `left`; the scanner's
input, offset and token count, `more` and `lastComment` are never touched -/
abbrev FS.rebuild (f : FS) (tv : List Token) (k p l : Nat) : FS :=
  { f with s := { f.s with tv := tv, folds := k }, pos := p, left := l }

/-- a window whose tokens are usable and derived from the window of `f` -/
def WinOK (f : FS) (tv : List Token) : Prop := tv.length = 8 ∧ ∀ t ∈ tv, TokF t ∧ Derived f.s.tv t

theorem winOK_same {f : FS} (hf : FInv f) : WinOK f f.s.tv :=
  ⟨hf.1.1, fun t ht => ⟨hf.1.2.2 t ht, Or.inl ht⟩⟩

theorem winOK_set {f : FS} (hf : FInv f) (i : Nat) {t : Token} (ht : TokF t) (hd : Derived f.s.tv t) :
    WinOK f (f.s.tv.set i t) := by
  refine ⟨by rw [List.length_set]; exact hf.1.1, fun x hx => ?_⟩
  rcases List.mem_or_eq_of_mem_set hx with h | h
  · exact ⟨hf.1.2.2 x h, Or.inl h⟩
  · rw [h]; exact ⟨ht, hd⟩

theorem rebuild_ok {f : FS} (hf : FInv f) {tv : List Token} (hw : WinOK f tv) (k : Nat) {p l : Nat} (hl : l ≤ p) (hp : p ≤ 6) :
    FInv (f.rebuild tv k p l) ∧ Evol f (f.rebuild tv k p l) :=
  ⟨⟨⟨hw.1, hf.1.2.1, fun t ht => (hw.2 t ht).1⟩, hl, hp, hf.2.2.2⟩, rfl, rfl, rfl, rfl, rfl, fun t ht => (hw.2 t ht).2⟩

/-! ## decrease -/

def Lt (f f' : FS) : Prop := f'.pos < f.pos ∨ (f'.pos = f.pos ∧ mu f' < mu f)
def Le (f f' : FS) : Prop := f'.pos < f.pos ∨ (f'.pos = f.pos ∧ mu f' ≤ mu f)

theorem lt_set (f f' : FS) (i : Nat) (a t : Token) (hget : f.s.tv[i]? = some a) (hi : i < f.pos)
    (htv : f'.s.tv = f.s.tv.set i t) (hpos : f'.pos = f.pos)
    (hw : wcat t.cat + 2 * (f.pos - f'.left) < wcat a.cat + 2 * (f.pos - f.left)) : Lt f f' := by
  right
  refine ⟨hpos, ?_⟩
  have := phi_set f.s.tv f.pos i a t hget hi
  unfold mu; rw [htv, hpos]; omega

theorem le_set (f f' : FS) (i : Nat) (a t : Token) (hget : f.s.tv[i]? = some a) (hi : i < f.pos)
    (htv : f'.s.tv = f.s.tv.set i t) (hpos : f'.pos = f.pos)
    (hw : wcat t.cat + 2 * (f.pos - f'.left) ≤ wcat a.cat + 2 * (f.pos - f.left)) : Le f f' := by
  right
  refine ⟨hpos, ?_⟩
  have := phi_set f.s.tv f.pos i a t hget hi
  unfold mu; rw [htv, hpos]; omega

theorem lt_left (f f' : FS) (htv : f'.s.tv = f.s.tv) (hpos : f'.pos = f.pos)
    (h : f.pos - f'.left < f.pos - f.left) : Lt f f' := by
  right
  refine ⟨hpos, ?_⟩
  unfold mu; rw [htv, hpos]; omega

theorem le_left (f f' : FS) (htv : f'.s.tv = f.s.tv) (hpos : f'.pos = f.pos)
    (h : f.pos - f'.left ≤ f.pos - f.left) : Le f f' := by
  right
  refine ⟨hpos, ?_⟩
  unfold mu; rw [htv, hpos]; omega

theorem Lt.le {f f' : FS} (h : Lt f f') : Le f f' := by
  rcases h with h | ⟨h1, h2⟩
  · exact Or.inl h
  · exact Or.inr ⟨h1, Nat.le_of_lt h2⟩

/-- a stage that only rewrote the window has read no input: `pos`, then `mu`, decide -/
theorem bigM_evol (f f' : FS) (hev : Evol f f') : bigM f' + f.pos * 145 + mu f = bigM f + f'.pos * 145 + mu f' := by
  unfold bigM
  rw [hev.1, hev.2.1]; omega

theorem bigM_le_of_Le (f f' : FS) (hev : Evol f f') (h : Le f f') (hp' : f'.pos ≤ 6) : bigM f' ≤ bigM f := by
  have := bigM_evol f f' hev
  have := mu_le f' hp'
  rcases h with h | ⟨h1, h2⟩ <;> omega

theorem bigM_lt_of_Lt (f f' : FS) (hev : Evol f f') (h : Lt f f') (hp' : f'.pos ≤ 6) : bigM f' < bigM f := by
  have := bigM_evol f f' hev
  have := mu_le f' hp'
  rcases h with h | ⟨h1, h2⟩ <;> omega

/-- reading input dominates everything else -/
theorem bigM_lt_of_scan (f f' : FS) (hin : f'.s.input = f.s.input) (hsp : f.s.pos < f'.s.pos)
    (hle : f'.s.pos ≤ f'.s.input.length) (hp' : f'.pos ≤ 6) : bigM f' < bigM f := by
  have hm := mu_le f' hp'
  unfold bigM
  rw [hin] at hle ⊢
  have : (f.s.input.length - f'.s.pos) * 1015 + 1015 ≤ (f.s.input.length - f.s.pos) * 1015 := by omega
  have : f'.pos * 145 ≤ 870 := by omega
  omega

/-! ## the invariant behind `notWhitelist`'s reads of `input[tv[0].len]`, `input[tv[0].len+1]` -/

def hasCom (f : FS) : Prop := ∃ u, (u ∈ f.s.tv ∨ u = f.lastComment) ∧ u.cat = 99

/-- a scan offset at or after `b` where a token was dispatched; if the byte there is `/` or `-` and
the token was a comment, two bytes exist (`/*`, `--`) -/
def Wit (input : Bytes) (b : Nat) : Prop :=
  ∃ p, b ≤ p ∧ p < input.length ∧ ((input[p]? = some 47 ∨ input[p]? = some 45) → p + 2 ≤ input.length)

/-- while at most two tokens have been emitted: no comment before the second token; a number-like
token ends inside the scanned input and, once a comment exists, before the offset the comment was
dispatched at -/
def XInv (f : FS) : Prop :=
  1 ≤ f.s.toks ∧ (f.s.toks ≤ 1 → ¬ hasCom f) ∧
  (f.s.toks ≤ 2 → ∀ t ∈ f.s.tv, isNum t → t.pos + t.len ≤ f.s.pos ∧ (hasCom f → Wit f.s.input (t.pos + t.len)))

theorem hasCom_evol {f f' : FS} (h : Evol f f') (hc : hasCom f') : hasCom f := by
  obtain ⟨u, hu, h99⟩ := hc
  rcases hu with hu | hu
  · rcases h.2.2.2.2.2 u hu with hm | ⟨hne, _⟩
    · exact ⟨u, Or.inl hm, h99⟩
    · exact absurd h99 hne
  · exact ⟨u, Or.inr (hu.trans h.2.2.2.1), h99⟩

theorem xinv_evol {f f' : FS} (h : Evol f f') (hx : XInv f) : XInv f' := by
  obtain ⟨x1, x2, x3⟩ := hx
  have e1 := h.1; have e2 := h.2.1; have e3 := h.2.2.1
  refine ⟨by rw [e3]; exact x1, fun ht hc => x2 (by rw [← e3]; exact ht) (hasCom_evol h hc), ?_⟩
  intro ht t' ht' hn'
  have x3' := x3 (by rw [← e3]; exact ht)
  rw [e1, e2]
  rcases h.2.2.2.2.2 t' ht' with hm | ⟨_, hd⟩
  · obtain ⟨y1, y2⟩ := x3' t' hm hn'
    exact ⟨y1, fun hc => y2 (hasCom_evol h hc)⟩
  · obtain ⟨t, htm, hnt, hp, hl⟩ := hd hn'
    obtain ⟨y1, y2⟩ := x3' t htm hnt
    rw [← hp, ← hl]
    exact ⟨y1, fun hc => y2 (hasCom_evol h hc)⟩

end LibInj.Sqli
