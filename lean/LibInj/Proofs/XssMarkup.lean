import LibInj.Proofs.XssLift
import LibInj.Proofs.H5Term
/-! C04, markup forms for arbitrary content: after any `<`-free text, `<!doctype…` in any letter case followed by
anything; and a `<? … >` / `<! … >` / `<!-- … -->` / `<% … %>` construct whose text carries one of the markers the
classifier looks for (a back-tick anywhere, `[if`, `xml`, `import`, `entity` at its start, in any case) are
reported, whatever follows. -/
namespace LibInj.Xss
open LibInj LibInj.H5

/-- what the comment tests of `isXSS` look for in the text `T` of a comment-like token -/
def Marker (T : Bytes) : Prop :=
  T.contains 96 = true ∨
  (∃ c1 c2 c3 T', T = 91 :: c1 :: c2 :: c3 :: T' ∧ goUpper [c1, c2] = IF_) ∨
  (∃ c0 c1 c2 c3 T', T = c0 :: c1 :: c2 :: c3 :: T' ∧ goUpper [c0, c1, c2] = XML) ∨
  (∃ c0 c1 c2 c3 c4 c5 T', T = c0 :: c1 :: c2 :: c3 :: c4 :: c5 :: T' ∧
    (goUpper (stripNul [c0, c1, c2, c3, c4, c5]) = IMPORT ∨ goUpper (stripNul [c0, c1, c2, c3, c4, c5]) = ENTITY))

theorem commentIsXSS_true (h : H) (T R : Bytes) (hdrop : h.s.drop h.tokStart = T ++ R) (hl : h.tokLen = T.length)
    (hs : h.tokStart ≤ h.s.length) (hm : Marker T) : commentIsXSS h = .ok true := by
  have hlen : h.s.length = h.tokStart + (T.length + R.length) := by
    have := congrArg List.length hdrop
    simp at this; omega
  have hsl : slice h.s h.tokStart (h.tokStart + h.tokLen) = .ok T := by
    rw [slice_ok _ _ _ (by omega) (by omega), hdrop, Nat.add_sub_cancel_left, hl, List.take_left]
  unfold commentIsXSS
  simp only [hsl, offFrom_ok hs, hdrop, bind, Except.bind, pure, Except.pure]
  by_cases hbt : T.contains 96 = true
  · simp only [hbt, ↓reduceIte]
  · simp only [hbt, Bool.false_eq_true, ↓reduceIte]
    rcases hm with hm | ⟨c1, c2, c3, T', rfl, hif⟩ | ⟨c0, c1, c2, c3, T', rfl, hx⟩ | ⟨c0, c1, c2, c3, c4, c5, T', rfl, hie⟩
    · exact absurd hm hbt
    · simp [slice, at', hl, hif]
    · simp [slice, at', hl, hx]
    · have hor : (goUpper (stripNul [c0, c1, c2, c3, c4, c5]) == IMPORT || goUpper (stripNul [c0, c1, c2, c3, c4, c5]) == ENTITY) = true := by
        rcases hie with h | h <;> simp [h]
      simp [slice, at', hl, hor]

theorem xssLoop_doctype (h x : H) (attr fuel : Nat) (hn : next h = .ok (true, x)) (ht : x.tokType = .docType) :
    xssLoop h attr (fuel + 1) = .ok true := by
  unfold xssLoop
  simp only [hn, bind, Except.bind, pure, Except.pure, Bool.not_true, Bool.false_eq_true, ↓reduceIte, ht]

theorem xssLoop_comment (h x : H) (attr fuel : Nat) (hn : next h = .ok (true, x)) (ht : x.tokType = .tagComment)
    (hc : commentIsXSS x = .ok true) : xssLoop h attr (fuel + 1) = .ok true := by
  unfold xssLoop
  simp only [hn, bind, Except.bind, pure, Except.pure, Bool.not_true, Bool.false_eq_true, ↓reduceIte, ht, hc]

theorem first_bang (body : Bytes) :
    next (init (60 :: 33 :: body) 0) =
      stateMarkupDeclarationOpen { (emit (init (60 :: 33 :: body) 0) 0 0 .dataText 1 .tagOpen) with pos := 2 } := by
  rw [first_lt]
  unfold stateTagOpen
  simp [emit, init, at', bind, Except.bind]

theorem first_question (body : Bytes) :
    next (init (60 :: 63 :: body) 0) =
      stateBogusComment { (emit (init (60 :: 63 :: body) 0) 0 0 .dataText 1 .tagOpen) with pos := 2 } := by
  rw [first_lt]
  unfold stateTagOpen
  simp [emit, init, at', bind, Except.bind]

theorem first_percent (body : Bytes) :
    next (init (60 :: 37 :: body) 0) =
      stateBogusComment2 { (emit (init (60 :: 37 :: body) 0) 0 0 .dataText 1 .tagOpen) with pos := 2 } := by
  rw [first_lt]
  unfold stateTagOpen
  simp [emit, init, at', bind, Except.bind]

theorem doctype_detected (p w rest : Bytes) (hp : (60 : UInt8) ∉ p) (hw : w.length = 7) (hlow : goLowerAscii w = doctypeLower) :
    isXSSCtx (p ++ 60 :: 33 :: (w ++ rest)) 0 = .ok true := by
  rw [data_prefix _ p hp]
  unfold isXSSCtx xssFuel
  rw [show 3 * (60 :: 33 :: (w ++ rest)).length + 4 = (3 * (60 :: 33 :: (w ++ rest)).length + 3) + 1 by omega]
  have hstep : ∃ x, next (init (60 :: 33 :: (w ++ rest)) 0) = .ok (true, x) ∧ x.tokType = .docType := by
    rw [first_bang]
    unfold stateMarkupDeclarationOpen
    have hwin : (((60 : UInt8) :: 33 :: (w ++ rest)).drop 2).take 7 = w := by
      simp only [List.drop_succ_cons, List.drop_zero]
      rw [List.take_append_of_le_length (by omega), List.take_of_length_le (by omega)]
    have hrem : decide ((60 :: 33 :: (w ++ rest)).length - 2 ≥ 7) = true := by simp; omega
    simp only [emit, init, hwin, hlow, hrem, beq_self_eq_true, Bool.and_self, ↓reduceIte]
    unfold stateDoctype
    simp only [offFrom, bind, Except.bind, pure, Except.pure]
    have : 2 ≤ (60 :: 33 :: (w ++ rest)).length := by simp
    simp only [this, ↓reduceIte]
    split
    · exact ⟨_, rfl, rfl⟩
    · exact ⟨_, rfl, rfl⟩
  obtain ⟨x, hn, ht⟩ := hstep
  exact xssLoop_doctype _ x 0 _ hn ht

theorem comment_token_reported (s : Bytes) (x : H) (T R : Bytes) (start : Nat) (hn : next (init s 0) = .ok (true, x))
    (hxs : x.s = s) (hty : x.tokType = .tagComment) (hst : x.tokStart = start) (hlen : x.tokLen = T.length)
    (hdrop : s.drop start = T ++ R) (hle : start ≤ s.length) (hm : Marker T) : isXSSCtx s 0 = .ok true := by
  unfold isXSSCtx xssFuel
  rw [show 3 * s.length + 4 = (3 * s.length + 3) + 1 by omega]
  exact xssLoop_comment _ x 0 _ hn hty
    (commentIsXSS_true x T R (by rw [hxs, hst]; exact hdrop) hlen (by rw [hxs, hst]; exact hle) hm)

theorem bogus_reported (c : UInt8) (T tail : Bytes) (hT : (62 : UInt8) ∉ T) (htail : tail = [] ∨ ∃ r, tail = 62 :: r) (hm : Marker T)
    (hn : next (init (60 :: c :: (T ++ tail)) 0) =
      stateBogusComment { (emit (init (60 :: c :: (T ++ tail)) 0) 0 0 .dataText 1 .tagOpen) with pos := 2 }) :
    isXSSCtx (60 :: c :: (T ++ tail)) 0 = .ok true := by
  unfold stateBogusComment at hn
  simp only [emit, init, offFrom, bind, Except.bind, pure, Except.pure] at hn
  have h2 : 2 ≤ (60 :: c :: (T ++ tail)).length := by simp
  simp only [h2, ↓reduceIte, List.drop_succ_cons, List.drop_zero] at hn
  rcases htail with rfl | ⟨r, rfl⟩
  · rw [List.append_nil] at hn ⊢
    rw [(indexByte_none_iff T 62).mpr hT] at hn
    exact comment_token_reported _ _ T [] 2 hn rfl rfl rfl (by simp) (by simp) (by simp) hm
  · rw [indexByte_first T 62 r hT] at hn
    exact comment_token_reported _ _ T (62 :: r) 2 hn rfl rfl rfl rfl (by simp) (by simp) hm

theorem pi_detected (p T tail : Bytes) (hp : (60 : UInt8) ∉ p) (hT : (62 : UInt8) ∉ T) (htail : tail = [] ∨ ∃ r, tail = 62 :: r)
    (hm : Marker T) : isXSSCtx (p ++ 60 :: 63 :: (T ++ tail)) 0 = .ok true := by
  rw [data_prefix _ p hp]
  exact bogus_reported 63 T tail hT htail hm (first_question _)

/-- the first byte of the 7-byte window decides against `doctype` and `[CDATA[` -/
theorem win_first (w : Bytes) (c : UInt8) (t : Bytes) (hw : w = c :: t) (h1 : lowerAscii c ≠ 100) (h2 : c ≠ 91) :
    (goLowerAscii w == doctypeLower) = false ∧ (w == cdataOpen) = false := by
  have h0 : w[0]? = some c := by rw [hw]; rfl
  exact ⟨ne_doctype_at w 0 c h0 fun h => h1 (Option.some.inj h).symm, ne_cdata_at w 0 c h0 fun h => h2 (Option.some.inj h).symm⟩

theorem decl_detected (p T' tail : Bytes) (c : UInt8) (hp : (60 : UInt8) ∉ p) (hT : (62 : UInt8) ∉ (c :: T'))
    (htail : tail = [] ∨ ∃ r, tail = 62 :: r) (h1 : lowerAscii c ≠ 100) (h2 : c ≠ 91) (h3 : c ≠ 45)
    (hm : Marker (c :: T')) : isXSSCtx (p ++ 60 :: 33 :: ((c :: T') ++ tail)) 0 = .ok true := by
  rw [data_prefix _ p hp]
  refine bogus_reported 33 (c :: T') tail hT htail hm ?_
  rw [first_bang]
  unfold stateMarkupDeclarationOpen
  simp only [emit, init, List.drop_succ_cons, List.drop_zero]
  obtain ⟨w1, w2⟩ := win_first (((c :: T') ++ tail).take 7) c ((T' ++ tail).take 6) (by simp) h1 h2
  have w3 : ((((c :: T') ++ tail).take 2) == [45, 45]) = false := by
    cases hc : (((c :: T') ++ tail).take 2) == [45, 45] with
    | false => rfl
    | true =>
      exfalso
      have he : ((c :: T') ++ tail).take 2 = [45, 45] := by simpa using hc
      have := congrArg List.head? he
      simp at this
      exact h3 this
  simp only [w1, w2, w3, Bool.and_false, Bool.false_eq_true, ↓reduceIte]

theorem not_mem_get (c : UInt8) (T : Bytes) (h : c ∉ T) (k : Nat) : T[k]? ≠ some c := by
  intro hk
  exact h (List.mem_of_getElem? hk)

/-- a searching state on `pre ++ X ++ tail` at offset `|pre|`: when no terminator starts inside `X`, and `tail` is empty or
begins with one, the token is exactly `X` -/
theorem search_token {f : H → M (Bool × H)} {T : Bytes → Nat → Nat → Prop} {ty : Ty} (hS : Searches f T ty) (h : H)
    (pre X tail : Bytes) (hs : h.s = pre ++ X ++ tail) (hpos : h.pos = pre.length)
    (hin : ∀ i w, T h.s i w → i < h.s.length)
    (hX : ∀ j w, h.pos ≤ j → j < pre.length + X.length → ¬ T h.s j w)
    (htail : tail = [] ∨ ∃ w, T h.s (pre.length + X.length) w) :
    ∃ x, f h = .ok (true, x) ∧ x.s = h.s ∧ x.tokType = ty ∧ x.tokStart = pre.length ∧ x.tokLen = X.length := by
  have hlen : h.s.length = pre.length + X.length + tail.length := by rw [hs]; simp only [List.length_append]
  obtain ⟨hfound, hnone⟩ := hS h (by omega)
  rcases htail with rfl | ⟨w, hw⟩
  · have hno : ∀ i w, h.pos ≤ i → ¬ T h.s i w := fun i w hi hc =>
      hX i w hi (by have := hin i w hc; simp at hlen; omega) hc
    have hl : h.s.length - h.pos = X.length := by simp at hlen; omega
    rcases hnone hno with hr | hr <;> rw [hr]
    · exact ⟨_, rfl, rfl, rfl, hpos, hl⟩
    · exact ⟨_, rfl, rfl, rfl, hpos, hl⟩
  · rw [hfound _ w hw (by omega) (fun j m hj hlt => hX j m hj hlt)]
    exact ⟨_, rfl, rfl, rfl, hpos, by show pre.length + X.length - h.pos = X.length; omega⟩

theorem comEnd_append (pre X : Bytes) (j n : Nat) : ComEnd (pre ++ X) (pre.length + j) n ↔ ComEnd X j n := by
  simp only [ComEnd, Nat.add_assoc, getElem?_append_add]

theorem term2_append (pre X : Bytes) (a b : UInt8) (j : Nat) : Term2 (pre ++ X) a b (pre.length + j) ↔ Term2 X a b j := by
  simp only [Term2, Nat.add_assoc, getElem?_append_add]

theorem comment_state_general (h4 : H) (T tail : Bytes) (hs4 : h4.s = [60, 33, 45, 45] ++ (T ++ tail)) (hp4 : h4.pos = 4)
    (hT : ∀ j n, j < T.length → ¬ ComEnd (T ++ tail) j n)
    (htail : tail = [] ∨ ∃ e r, (e = 45 ∨ e = 33) ∧ tail = 45 :: e :: 62 :: r) :
    ∃ x, stateComment h4 = .ok (true, x) ∧ x.s = h4.s ∧ x.tokType = .tagComment ∧ x.tokStart = 4 ∧ x.tokLen = T.length := by
  refine search_token comment_searches h4 [60, 33, 45, 45] T tail (by rw [hs4]; simp) hp4
    (fun i w ⟨n, hc, _⟩ => getElem?_some_lt hc.1) ?_ ?_
  · rintro j w hj hlt ⟨n, hc, _⟩
    rw [hp4] at hj
    rw [hs4, show j = ([60, 33, 45, 45] : Bytes).length + (j - 4) by simp; omega, comEnd_append] at hc
    exact hT (j - 4) n (by simp at hlt; omega) hc
  · refine htail.imp_right fun ⟨e, r, he, hr⟩ => ⟨0 + 3, 0, ?_, rfl⟩
    rw [hs4, comEnd_append, hr]
    refine ⟨?_, fun k hk => absurd hk (by omega), ?_, ?_⟩
    · rw [← Nat.add_zero T.length, getElem?_append_add]; rfl
    · rw [show T.length + 1 + 0 = T.length + 1 by omega, getElem?_append_add]
      rcases he with rfl | rfl <;> simp
    · rw [show T.length + 2 + 0 = T.length + 2 by omega, getElem?_append_add]; rfl

theorem comment_detected_general (p T tail : Bytes) (hp : (60 : UInt8) ∉ p)
    (hT : ∀ j n, j < T.length → ¬ ComEnd (T ++ tail) j n)
    (htail : tail = [] ∨ ∃ e r, (e = 45 ∨ e = 33) ∧ tail = 45 :: e :: 62 :: r) (hm : Marker T) :
    isXSSCtx (p ++ 60 :: 33 :: 45 :: 45 :: (T ++ tail)) 0 = .ok true := by
  rw [data_prefix _ p hp]
  have hn := first_bang (45 :: 45 :: (T ++ tail))
  unfold stateMarkupDeclarationOpen at hn
  simp only [emit, init, List.drop_succ_cons, List.drop_zero] at hn
  simp only [List.take_succ_cons] at hn
  obtain ⟨w1, w2⟩ := win_first (45 :: 45 :: (T ++ tail).take 5) 45 (45 :: (T ++ tail).take 5) rfl (by decide) (by decide)
  have w3 : decide ((60 :: 33 :: 45 :: 45 :: (T ++ tail)).length - 2 ≥ 2) = true := by simp
  simp only [w1, w2, w3, Bool.and_false, Bool.false_eq_true, ↓reduceIte, List.take_zero, beq_self_eq_true,
    Bool.and_self] at hn
  obtain ⟨x, hx, hxs, hty, hst, hl⟩ := comment_state_general
    ({ s := 60 :: 33 :: 45 :: 45 :: (T ++ tail), pos := 2 + 2, state := St.tagOpen } : H) T tail rfl rfl hT htail
  rw [hx] at hn
  exact comment_token_reported _ x T tail 4 hn hxs hty hst hl (by simp) (by simp) hm

theorem comment_detected (p T tail : Bytes) (hp : (60 : UInt8) ∉ p) (hT : (45 : UInt8) ∉ T)
    (htail : tail = [] ∨ ∃ r, tail = 45 :: 45 :: 62 :: r) (hm : Marker T) :
    isXSSCtx (p ++ 60 :: 33 :: 45 :: 45 :: (T ++ tail)) 0 = .ok true := by
  refine comment_detected_general p T tail hp (fun j n hj hce => ?_) (htail.imp_right fun ⟨r, hr⟩ => ⟨45, r, Or.inl rfl, hr⟩) hm
  -- a terminator starts with a dash
  have := hce.1
  rw [List.getElem?_append_left hj] at this
  exact not_mem_get 45 T hT _ this

/-- a text free of `>` holds no comment terminator, and none that starts in it reaches into the `-->` / `-!>` after it -/
theorem no_comEnd_of_gt_free (T tail : Bytes) (hT : (62 : UInt8) ∉ T)
    (htail : tail = [] ∨ ∃ e r, (e = 45 ∨ e = 33) ∧ tail = 45 :: e :: 62 :: r) :
    ∀ j n, j < T.length → ¬ ComEnd (T ++ tail) j n := by
  intro j n hj ⟨_, hz, _, hgt⟩
  by_cases hin : j + 2 + n < T.length
  · rw [List.getElem?_append_left hin] at hgt
    exact not_mem_get 62 T hT _ hgt
  · rcases htail with rfl | ⟨e, r, he, rfl⟩
    · rw [List.getElem?_eq_none (by simp; omega)] at hgt; cases hgt
    · -- the dash that opens the tail sits where the terminator needs a NUL or its `>`
      by_cases hn0 : j + 2 + n = T.length
      · rw [hn0, List.getElem?_append_right (Nat.le_refl _)] at hgt
        simp at hgt
      · by_cases hn1 : j + 2 + n = T.length + 1
        · rw [hn1, List.getElem?_append_right (by omega)] at hgt
          simp only [show T.length + 1 - T.length = 1 by omega] at hgt
          rcases he with rfl | rfl <;> simp at hgt
        · -- `j + 2 + n ≥ |T| + 2`: index `|T|` lies in the NUL run
          have := hz (T.length - (j + 1)) (by omega)
          rw [show j + 1 + (T.length - (j + 1)) = T.length by omega, List.getElem?_append_right (Nat.le_refl _)] at this
          simp at this

theorem comment_detected_dashes (p T tail : Bytes) (hp : (60 : UInt8) ∉ p) (hT : (62 : UInt8) ∉ T)
    (htail : tail = [] ∨ ∃ e r, (e = 45 ∨ e = 33) ∧ tail = 45 :: e :: 62 :: r) (hm : Marker T) :
    isXSSCtx (p ++ 60 :: 33 :: 45 :: 45 :: (T ++ tail)) 0 = .ok true :=
  comment_detected_general p T tail hp (no_comEnd_of_gt_free T tail hT htail) htail hm

theorem percent_state_result (h2 : H) (T tail : Bytes) (hs2 : h2.s = [60, 37] ++ (T ++ tail)) (hp2 : h2.pos = 2)
    (hT : (37 : UInt8) ∉ T) (htail : tail = [] ∨ ∃ r, tail = 37 :: 62 :: r) :
    ∃ x, stateBogusComment2 h2 = .ok (true, x) ∧ x.s = h2.s ∧ x.tokType = .tagComment ∧ x.tokStart = 2 ∧ x.tokLen = T.length := by
  refine search_token percent_searches h2 [60, 37] T tail (by rw [hs2]; simp) hp2
    (fun i w ⟨hc, _⟩ => getElem?_some_lt hc.1) ?_ ?_
  · rintro j w hj hlt ⟨hc, _⟩
    rw [hp2] at hj
    rw [hs2, show j = ([60, 37] : Bytes).length + (j - 2) by simp; omega, term2_append] at hc
    have := hc.1
    rw [List.getElem?_append_left (by simp at hlt; omega)] at this
    exact not_mem_get 37 T hT _ this
  · refine htail.imp_right fun ⟨r, hr⟩ => ⟨2, ?_, rfl⟩
    rw [hs2, term2_append, hr]
    exact ⟨by rw [← Nat.add_zero T.length, getElem?_append_add]; rfl, by rw [getElem?_append_add]; rfl⟩

theorem percent_detected (p T tail : Bytes) (hp : (60 : UInt8) ∉ p) (hT : (37 : UInt8) ∉ T)
    (htail : tail = [] ∨ ∃ r, tail = 37 :: 62 :: r) (hm : Marker T) :
    isXSSCtx (p ++ 60 :: 37 :: (T ++ tail)) 0 = .ok true := by
  rw [data_prefix _ p hp]
  have hn := first_percent (T ++ tail)
  simp only [emit, init] at hn
  obtain ⟨x, hx, hxs, hty, hst, hl⟩ := percent_state_result
    ({ s := 60 :: 37 :: (T ++ tail), pos := 2, state := St.tagOpen } : H) T tail rfl rfl hT htail
  rw [hx] at hn
  exact comment_token_reported _ x T tail 2 hn hxs hty hst hl (by simp) (by simp) hm

end LibInj.Xss
