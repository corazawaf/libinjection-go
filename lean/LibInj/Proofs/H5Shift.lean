import LibInj.Proofs.H5Good
/-! C13: the HTML5 tokenizer commutes with prepending bytes to the input (positions shift by the
length of the prefix), on the states whose behaviour does not depend on `pos = 0`. -/
namespace LibInj.H5
open LibInj

/-- the same machine state over `t ++ s`, positions shifted; the pending token fields are arbitrary -/
def shiftG (t : Bytes) (a b : Nat) (c : Ty) (h : H) : H :=
  { h with s := t ++ h.s, pos := h.pos + t.length, tokStart := a, tokLen := b, tokType := c }

def shiftH (t : Bytes) (h : H) : H := shiftG t (h.tokStart + t.length) h.tokLen h.tokType h

/-- forget the state of a step that emitted nothing -/
def normR (r : M (Bool × H)) : M (Bool × H) := r.map (fun p => if p.1 then p else (false, { s := [] }))

/-- `X` on the shifted state and `Y` on the original agree: same error, same "no token", or the same
token and successor state shifted -/
def Sh (t : Bytes) (X Y : M (Bool × H)) : Prop := normR X = normR (Y.map (fun p => (p.1, shiftH t p.2)))

@[simp] theorem shiftG_s (t : Bytes) (a b : Nat) (c : Ty) (h : H) : (shiftG t a b c h).s = t ++ h.s := rfl
@[simp] theorem shiftG_pos (t : Bytes) (a b : Nat) (c : Ty) (h : H) : (shiftG t a b c h).pos = h.pos + t.length := rfl
@[simp] theorem shiftG_isClose (t : Bytes) (a b : Nat) (c : Ty) (h : H) : (shiftG t a b c h).isClose = h.isClose := rfl
@[simp] theorem shiftG_state (t : Bytes) (a b : Nat) (c : Ty) (h : H) : (shiftG t a b c h).state = h.state := rfl

theorem shiftG_pos_add (t : Bytes) (a b : Nat) (c : Ty) (h : H) (k : Nat) :
    { shiftG t a b c h with pos := h.pos + k + t.length } = shiftG t a b c { h with pos := h.pos + k } := rfl

theorem H_eq (A B : H) (h1 : A.s = B.s) (h2 : A.pos = B.pos) (h3 : A.isClose = B.isClose) (h4 : A.state = B.state)
    (h5 : A.tokStart = B.tokStart) (h6 : A.tokLen = B.tokLen) (h7 : A.tokType = B.tokType) : A = B := by
  cases A; cases B; simp_all

theorem sh_bind {α : Type} {t : Bytes} {x : M α} {f g : α → M (Bool × H)} (h : ∀ a, Sh t (f a) (g a)) :
    Sh t (x >>= f) (x >>= g) := by
  cases x with
  | error e => rfl
  | ok a => exact h a

theorem sh_ite {t : Bytes} {c : Prop} [Decidable c] {A B A' B' : M (Bool × H)} (hA : Sh t A A') (hB : Sh t B B') :
    Sh t (if c then A else B) (if c then A' else B') := by
  split
  · exact hA
  · exact hB

theorem sh_true {t : Bytes} {A B : H} (h : A = shiftH t B) : Sh t (pure (true, A)) (pure (true, B)) := by
  rw [h]; rfl

theorem sh_false {t : Bytes} {A B : H} : Sh t (pure (false, A)) (pure (false, B)) := rfl

theorem sh_flag {t : Bytes} {b : Bool} {A B : H} (h : A = shiftH t B) : Sh t (pure (b, A)) (pure (b, B)) := by
  cases b
  · exact sh_false
  · exact sh_true h

/-! ### primitives under the shift -/

theorem len_sh (t s : Bytes) : (t ++ s).length = s.length + t.length := by
  rw [List.length_append, Nat.add_comm]

theorem drop_sh (t s : Bytes) (p : Nat) : (t ++ s).drop (p + t.length) = s.drop p := by
  rw [List.drop_append, List.drop_eq_nil_of_le (by omega), List.nil_append]
  congr 1; omega

theorem get_sh (t s : Bytes) (p : Nat) : (t ++ s)[p + t.length]? = s[p]? := by
  rw [Nat.add_comm, getElem?_append_add]

theorem at_sh (t s : Bytes) (p : Nat) : at' (t ++ s) (p + t.length) = at' s p := by
  unfold at'; rw [get_sh]

theorem off_sh {β : Type} (t s : Bytes) (p : Nat) (f : Nat → M β) :
    offFrom (t ++ s) (p + t.length) >>= f = offFrom s p >>= fun start => f (start + t.length) := by
  unfold offFrom
  rw [len_sh]
  by_cases h : p ≤ s.length
  · rw [if_pos h, if_pos (by omega)]; rfl
  · rw [if_neg h, if_neg (by omega)]; rfl

theorem sh_off {t s : Bytes} {p : Nat} {f g : Nat → M (Bool × H)} (h : ∀ start, Sh t (f (start + t.length)) (g start)) :
    Sh t (offFrom (t ++ s) (p + t.length) >>= f) (offFrom s p >>= g) := by
  rw [off_sh]
  exact sh_bind h

/-- push `+ t.length` outwards -/
theorem addn (t : Bytes) (a k : Nat) : a + t.length + k = a + k + t.length := by omega

theorem beq_sh (a b n : Nat) : (a + n == b + n) = (a == b) := by
  rw [Bool.eq_iff_iff]; simp

/-- rewrite every position, length and byte access of the shifted state to the unshifted one plus `t.length`,
and cancel `t.length` in comparisons; afterwards the two runs test the same conditions, and the states they
emit agree by `rfl` -/
macro "sh_norm" : tactic =>
  `(tactic| simp only [shiftG_s, shiftG_pos, shiftG_isClose, shiftG_state, len_sh, addn, drop_sh, get_sh, at_sh,
      ← Nat.add_assoc,
      Nat.add_sub_add_right, Nat.add_lt_add_iff_right, Nat.add_le_add_iff_right, beq_sh, ge_iff_le, gt_iff_lt])

variable {t : Bytes} {a b : Nat} {c : Ty}

theorem stateBogusComment_sh (h : H) : Sh t (stateBogusComment (shiftG t a b c h)) (stateBogusComment h) := by
  unfold stateBogusComment
  sh_norm
  refine sh_off (fun start => ?_)
  cases indexByte (h.s.drop h.pos) 62 with
  | none => exact sh_true rfl
  | some i => exact sh_true rfl

theorem idx_lt {s : Bytes} {pos i : Nat} {c : UInt8} (h : indexByte (s.drop pos) c = some i) : pos + i < s.length := by
  have := indexByte_lt h
  simp only [List.length_drop] at this
  omega

/-! The scanning loops run on the fuel of their input, which is larger for the shifted run: the two fuels
are independent, each large enough. -/

theorem bogus2Loop_sh (h : H) : ∀ (fuel fuel' pos : Nat), h.s.length - pos < fuel → h.s.length - pos < fuel' →
    Sh t (bogus2Loop (shiftG t a b c h) (pos + t.length) fuel') (bogus2Loop h pos fuel)
  | 0, _, _, hf, _ => by omega
  | _ + 1, 0, _, _, hf => by omega
  | fuel + 1, fuel' + 1, pos, hf, hf' => by
    unfold bogus2Loop
    sh_norm
    refine sh_off (fun _ => ?_)
    cases hi : indexByte (h.s.drop pos) 37 with
    | none => exact sh_off (fun _ => sh_true rfl)
    | some index =>
      have hlt := idx_lt hi
      refine sh_ite (sh_off (fun _ => sh_true rfl)) ?_
      refine sh_bind (fun ch => ?_)
      exact sh_ite (bogus2Loop_sh h fuel fuel' (pos + index + 1) (by omega) (by omega)) (sh_off (fun _ => sh_true rfl))

theorem stateBogusComment2_sh (h : H) : Sh t (stateBogusComment2 (shiftG t a b c h)) (stateBogusComment2 h) := by
  unfold stateBogusComment2
  exact bogus2Loop_sh h _ _ h.pos (by omega) (by simp only [shiftG_s, len_sh]; omega)

theorem stateDoctype_sh (h : H) : Sh t (stateDoctype (shiftG t a b c h)) (stateDoctype h) := by
  unfold stateDoctype
  sh_norm
  refine sh_off (fun start => ?_)
  cases indexByte (h.s.drop h.pos) 62 with
  | none => exact sh_true rfl
  | some i => exact sh_true rfl

theorem stateTagNameClose_sh (h : H) : Sh t (stateTagNameClose (shiftG t a b c h)) (stateTagNameClose h) := by
  unfold stateTagNameClose
  sh_norm
  exact sh_off (fun _ => sh_true rfl)

theorem commentLoop_sh (h : H) : ∀ (fuel fuel' pos : Nat), h.s.length - pos < fuel → h.s.length - pos < fuel' →
    Sh t (commentLoop (shiftG t a b c h) (pos + t.length) fuel') (commentLoop h pos fuel)
  | 0, _, _, hf, _ => by omega
  | _ + 1, 0, _, _, hf => by omega
  | fuel + 1, fuel' + 1, pos, hf, hf' => by
    unfold commentLoop
    sh_norm
    refine sh_off (fun _ => ?_)
    cases hi : indexByte (h.s.drop pos) 45 with
    | none => exact sh_off (fun _ => sh_true rfl)
    | some index =>
      have hlt := idx_lt hi
      have ih := commentLoop_sh h fuel fuel' (pos + index + 1) (by omega) (by omega)
      refine sh_ite (sh_off (fun _ => sh_true rfl)) ?_
      refine sh_ite (sh_off (fun _ => sh_true rfl)) ?_
      refine sh_bind (fun ch => ?_)
      refine sh_ite ih ?_
      refine sh_ite (sh_off (fun _ => sh_true rfl)) ?_
      refine sh_bind (fun c2 => ?_)
      exact sh_ite ih (sh_off (fun _ => sh_true rfl))

theorem cdataLoop_sh (h : H) : ∀ (fuel fuel' pos : Nat), h.s.length - pos < fuel → h.s.length - pos < fuel' →
    Sh t (cdataLoop (shiftG t a b c h) (pos + t.length) fuel') (cdataLoop h pos fuel)
  | 0, _, _, hf, _ => by omega
  | _ + 1, 0, _, _, hf => by omega
  | fuel + 1, fuel' + 1, pos, hf, hf' => by
    unfold cdataLoop
    sh_norm
    refine sh_off (fun _ => ?_)
    cases hi : indexByte (h.s.drop pos) 93 with
    | none => exact sh_off (fun _ => sh_true rfl)
    | some index =>
      have hlt := idx_lt hi
      refine sh_ite (sh_off (fun _ => sh_true rfl)) ?_
      refine sh_bind (fun c1 => ?_)
      refine sh_bind (fun isEnd => ?_)
      exact sh_ite (sh_off (fun _ => sh_true rfl)) (cdataLoop_sh h fuel fuel' (pos + index + 1) (by omega) (by omega))

theorem stateComment_sh (h : H) : Sh t (stateComment (shiftG t a b c h)) (stateComment h) := by
  unfold stateComment
  exact commentLoop_sh h _ _ h.pos (by omega) (by simp only [shiftG_s, len_sh]; omega)

theorem stateCData_sh (h : H) : Sh t (stateCData (shiftG t a b c h)) (stateCData h) := by
  unfold stateCData
  exact cdataLoop_sh h _ _ h.pos (by omega) (by simp only [shiftG_s, len_sh]; omega)

theorem stateMarkupDeclarationOpen_sh (h : H) :
    Sh t (stateMarkupDeclarationOpen (shiftG t a b c h)) (stateMarkupDeclarationOpen h) := by
  unfold stateMarkupDeclarationOpen
  sh_norm
  refine sh_ite (stateDoctype_sh h) ?_
  refine sh_ite (stateCData_sh { h with pos := h.pos + 7 }) ?_
  exact sh_ite (stateComment_sh { h with pos := h.pos + 2 }) (stateBogusComment_sh h)

theorem stateTagName_sh (h : H) : Sh t (stateTagName (shiftG t a b c h)) (stateTagName h) := by
  unfold stateTagName
  sh_norm
  refine sh_off (fun start => ?_)
  cases h.s[h.pos + spn tagNameByte (h.s.drop h.pos)]? with
  | none => exact sh_true rfl
  | some ch =>
    refine sh_ite (sh_true rfl) ?_
    refine sh_ite (sh_true rfl) ?_
    exact sh_ite (sh_true rfl) (sh_true rfl)

theorem stateAttributeName_sh (h : H) : Sh t (stateAttributeName (shiftG t a b c h)) (stateAttributeName h) := by
  unfold stateAttributeName
  sh_norm
  refine sh_off (fun start => ?_)
  cases h.s[h.pos + 1 + spn attrNameByte (h.s.drop (h.pos + 1))]? with
  | none => exact sh_true rfl
  | some ch =>
    refine sh_ite (sh_true rfl) ?_
    refine sh_ite (sh_true rfl) ?_
    exact sh_ite (sh_true rfl) (sh_true rfl)

theorem stateAttributeValueNoQuote_sh (h : H) :
    Sh t (stateAttributeValueNoQuote (shiftG t a b c h)) (stateAttributeValueNoQuote h) := by
  unfold stateAttributeValueNoQuote
  sh_norm
  refine sh_off (fun start => ?_)
  cases h.s[h.pos + spn noQuoteByte (h.s.drop h.pos)]? with
  | none => exact sh_true rfl
  | some ch => exact sh_ite (sh_true rfl) (sh_true rfl)

/-- the part of `stateAttributeValueQuote` after the opening quote has been stepped over -/
def valueQuoteCore (q : UInt8) (h : H) : M (Bool × H) := do
  let start ← offFrom h.s h.pos
  match indexByte (h.s.drop h.pos) q with
  | none => return (true, { h with tokStart := start, tokLen := h.s.length - h.pos, tokType := .attrValue, state := .eof })
  | some i => return (true, emit h start i .attrValue (h.pos + i + 1) .afterAttrValueQuoted)

theorem valueQuote_eq (q : UInt8) (h : H) :
    stateAttributeValueQuote q h = valueQuoteCore q (if h.pos > 0 then { h with pos := h.pos + 1 } else h) := rfl

theorem valueQuoteCore_sh (q : UInt8) (h : H) : Sh t (valueQuoteCore q (shiftG t a b c h)) (valueQuoteCore q h) := by
  unfold valueQuoteCore
  sh_norm
  refine sh_off (fun start => ?_)
  cases indexByte (h.s.drop h.pos) q with
  | none => exact sh_true rfl
  | some i => exact sh_true rfl

theorem stateAttributeValueQuote_sh (q : UInt8) (h : H) (hp : 0 < h.pos) :
    Sh t (stateAttributeValueQuote q (shiftG t a b c h)) (stateAttributeValueQuote q h) := by
  rw [valueQuote_eq, valueQuote_eq, if_pos hp, if_pos (show (shiftG t a b c h).pos > 0 from Nat.lt_add_right _ hp)]
  sh_norm
  exact valueQuoteCore_sh q { h with pos := h.pos + 1 }

theorem skipWhite_sh (h : H) : skipWhite (shiftG t a b c h) = (shiftG t a b c (skipWhite h).1, (skipWhite h).2) := by
  unfold skipWhite
  sh_norm
  rfl

theorem stateBeforeAttributeValue_sh (h : H) (h0 : 0 < h.pos) (hp : h.pos ≤ h.s.length) :
    Sh t (stateBeforeAttributeValue (shiftG t a b c h)) (stateBeforeAttributeValue h) := by
  obtain ⟨p, h1, _, e⟩ := skipWhite_eq h hp
  unfold stateBeforeAttributeValue
  rw [skipWhite_sh, e]
  have hp1 : 0 < p := Nat.lt_of_lt_of_le h0 h1
  cases h.s[p]? with
  | none => exact sh_false
  | some ch =>
    refine sh_ite (stateAttributeValueQuote_sh 34 _ hp1) ?_
    refine sh_ite (stateAttributeValueQuote_sh 39 _ hp1) ?_
    exact sh_ite (stateAttributeValueQuote_sh 96 _ hp1) (stateAttributeValueNoQuote_sh _)

theorem banLoop_sh : ∀ (fuel fuel' : Nat) (h : H), h.s.length - h.pos < fuel → h.s.length - h.pos < fuel' →
    banLoop (shiftG t a b c h) fuel' = (banLoop h fuel).map (fun r => (shiftG t a b c r.1, r.2))
  | 0, _, _, hf, _ => by omega
  | _ + 1, 0, _, _, hf => by omega
  | fuel + 1, fuel' + 1, h, hf, hf' => by
    unfold banLoop
    sh_norm
    by_cases hlt : h.pos < h.s.length
    · obtain ⟨p, h1, _, e⟩ := skipWhite_eq h (Nat.le_of_lt hlt)
      rw [if_pos hlt, if_pos hlt, skipWhite_sh, e]
      cases hx : h.s[p]? with
      | none => rfl
      | some x =>
        have hl1 := getElem?_some_lt hx
        by_cases h47 : (x == 47) = true
        · simp only [h47, ↓reduceIte]
          sh_norm
          cases h.s[p + 1]? with
          | none => rfl
          | some c2 =>
            by_cases h62 : (c2 != 62) = true
            · simp only [h62, ↓reduceIte]
              exact banLoop_sh fuel fuel' { h with pos := p + 1 } (by show h.s.length - (p + 1) < fuel; omega)
                (by show h.s.length - (p + 1) < fuel'; omega)
            · simp only [h62]; rfl
        · simp only [h47]; rfl
    · rw [if_neg hlt, if_neg hlt]; rfl

theorem sc_ban_sh : ∀ (d : Nat),
    (∀ h : H, 1 ≤ h.pos → h.pos ≤ h.s.length →
      Sh t (stateSelfClosingStartTag d (shiftG t a b c h)) (stateSelfClosingStartTag d h)) ∧
    (∀ h : H, h.pos ≤ h.s.length →
      Sh t (stateBeforeAttributeName d (shiftG t a b c h)) (stateBeforeAttributeName d h))
  | 0 => ⟨fun _ _ _ => rfl, fun _ _ => rfl⟩
  | d + 1 => by
    obtain ⟨ihS, ihB⟩ := sc_ban_sh d
    constructor
    · intro h h1 hp
      unfold stateSelfClosingStartTag
      sh_norm
      refine sh_ite sh_false ?_
      refine sh_bind (fun ch => ?_)
      refine sh_ite ?_ (ihB h hp)
      rw [if_neg (show ¬ h.pos + t.length = 0 by omega), if_neg (show ¬ h.pos = 0 by omega), Nat.sub_add_comm h1]
      exact sh_true rfl
    · intro h hp
      unfold stateBeforeAttributeName
      sh_norm
      rw [banLoop_sh (h.s.length + 1) (h.s.length + 1 + t.length) h (by omega) (by omega)]
      obtain ⟨h', ch, slash, hb, b1, b2, b3, b4, b5⟩ := banLoop_spec h hp (h.s.length + 1) (by omega)
      rw [hb]
      show Sh t (if slash = true then _ else _) (if slash = true then _ else _)
      by_cases hsl : slash = true
      · rw [if_pos hsl, if_pos hsl]
        have := b4 hsl
        exact ihS h' (by omega) (by rw [b1]; exact b3)
      rw [if_neg hsl, if_neg hsl]
      cases ch with
      | none => exact sh_false
      | some x =>
        sh_norm
        exact sh_ite (sh_off (fun _ => sh_true rfl)) (stateAttributeName_sh h')

theorem stateAfterAttributeName_sh (h : H) (hp : h.pos ≤ h.s.length) :
    Sh t (stateAfterAttributeName (shiftG t a b c h)) (stateAfterAttributeName h) := by
  obtain ⟨p, _, _, e⟩ := skipWhite_eq h hp
  unfold stateAfterAttributeName
  rw [skipWhite_sh, e]
  cases hx : h.s[p]? with
  | none => exact sh_false
  | some x =>
    have hl1 : p + 1 ≤ h.s.length := getElem?_some_lt hx
    sh_norm
    refine sh_ite ((sc_ban_sh callDepth).1 { h with pos := p + 1 } (Nat.succ_pos p) hl1) ?_
    refine sh_ite (stateBeforeAttributeValue_sh { h with pos := p + 1 } (Nat.succ_pos p) hl1) ?_
    exact sh_ite (stateTagNameClose_sh _) (stateAttributeName_sh _)

theorem stateAfterAttributeValueQuotedState_sh (h : H) (hp : h.pos ≤ h.s.length) :
    Sh t (stateAfterAttributeValueQuotedState (shiftG t a b c h)) (stateAfterAttributeValueQuotedState h) := by
  unfold stateAfterAttributeValueQuotedState
  sh_norm
  by_cases hge : h.s.length ≤ h.pos
  · rw [if_pos hge, if_pos hge]; exact sh_false
  rw [if_neg hge, if_neg hge]
  refine sh_bind (fun ch => ?_)
  refine sh_ite ?_ ?_
  · exact (sc_ban_sh callDepth).2 { h with pos := h.pos + 1 } (by show h.pos + 1 ≤ h.s.length; omega)
  refine sh_ite ?_ ?_
  · exact (sc_ban_sh callDepth).1 { h with pos := h.pos + 1 } (by show 1 ≤ h.pos + 1; omega)
      (by show h.pos + 1 ≤ h.s.length; omega)
  exact sh_ite (sh_off (fun _ => sh_true rfl)) ((sc_ban_sh callDepth).2 h hp)

theorem data_trio_sh : ∀ (d : Nat),
    (∀ (a b : Nat) (c : Ty) (h : H), Sh t (stateEndTagOpen d (shiftG t a b c h)) (stateEndTagOpen d h)) ∧
    (∀ (a b : Nat) (c : Ty) (h : H), 1 ≤ h.pos → Sh t (stateTagOpen d (shiftG t a b c h)) (stateTagOpen d h)) ∧
    (∀ (a b : Nat) (c : Ty) (h : H), Sh t (stateData d (shiftG t a b c h)) (stateData d h))
  | 0 => ⟨fun _ _ _ _ => rfl, fun _ _ _ _ _ => rfl, fun _ _ _ _ => rfl⟩
  | d + 1 => by
    obtain ⟨ihE, ihT, ihD⟩ := data_trio_sh d
    refine ⟨?_, ?_, ?_⟩
    · intro a b c h
      unfold stateEndTagOpen
      sh_norm
      refine sh_ite sh_false ?_
      refine sh_bind (fun ch => ?_)
      refine sh_ite (ihD a b c h) ?_
      exact sh_ite (stateTagName_sh h) (stateBogusComment_sh { h with isClose := false })
    · intro a b c h h1
      unfold stateTagOpen
      sh_norm
      refine sh_ite sh_false ?_
      refine sh_bind (fun ch => ?_)
      refine sh_ite (stateMarkupDeclarationOpen_sh { h with pos := h.pos + 1 }) ?_
      refine sh_ite (ihE a b c { h with pos := h.pos + 1, isClose := true }) ?_
      refine sh_ite (stateBogusComment_sh { h with pos := h.pos + 1 }) ?_
      refine sh_ite (stateBogusComment2_sh { h with pos := h.pos + 1 }) ?_
      refine sh_ite (stateTagName_sh h) ?_
      refine sh_ite (stateTagName_sh h) ?_
      -- neither run is at position 0
      have e1 : (h.pos + t.length == 0) = false := by
        rw [Bool.eq_false_iff]; simp; omega
      have e2 : (h.pos == 0) = false := by
        rw [Bool.eq_false_iff]; simp; omega
      simp only [e1, e2, Bool.false_eq_true, ↓reduceIte, Nat.sub_add_comm h1]
      exact sh_true rfl
    · intro a b c h
      unfold stateData
      sh_norm
      refine sh_off (fun start => ?_)
      cases indexByte (h.s.drop h.pos) 60 with
      | none => exact sh_flag rfl
      | some i =>
        refine sh_ite ?_ (sh_true rfl)
        exact ihT (start + t.length) i .dataText (emit h start i .dataText (h.pos + i + 1) .tagOpen) (by show 1 ≤ h.pos + i + 1; omega)

/-- the states whose step looks at `pos - 1` or tests `pos = 0` are entered after a byte was consumed,
and the quoted-value start states are initial states only -/
def ShOK (h : H) : Prop :=
  (h.state = .selfClosing → 1 ≤ h.pos) ∧ (h.state = .tagOpen → 1 ≤ h.pos) ∧ (h.state = .beforeAttrValue → 1 ≤ h.pos) ∧
  h.state ≠ .valSingle ∧ h.state ≠ .valDouble ∧ h.state ≠ .valBack

theorem next_sh (h : H) (hp : h.pos ≤ h.s.length) (ho : ShOK h) : Sh t (next (shiftG t a b c h)) (next h) := by
  obtain ⟨o1, o2, o3, o4, o5, o6⟩ := ho
  unfold next
  simp only [shiftG_state]
  cases hs : h.state with
  | eof => exact sh_false
  | data => exact (data_trio_sh dataDepth).2.2 a b c h
  | tagOpen => exact (data_trio_sh dataDepth).2.1 a b c h (o2 hs)
  | beforeAttrName => exact (sc_ban_sh callDepth).2 h hp
  | selfClosing => exact (sc_ban_sh callDepth).1 h (o1 hs) hp
  | tagNameClose => exact stateTagNameClose_sh h
  | afterAttrName => exact stateAfterAttributeName_sh h hp
  | beforeAttrValue => exact stateBeforeAttributeValue_sh h (o3 hs) hp
  | afterAttrValueQuoted => exact stateAfterAttributeValueQuotedState_sh h hp
  | valSingle => exact absurd hs o4
  | valDouble => exact absurd hs o5
  | valBack => exact absurd hs o6

theorem sh_ok_true (t : Bytes) (X : M (Bool × H)) (h' : H) (hx : Sh t X (.ok (true, h'))) : X = .ok (true, shiftH t h') := by
  unfold Sh normR at hx
  cases X with
  | error e => cases hx
  | ok p =>
    obtain ⟨b, x⟩ := p
    cases b with
    | false => simp [Except.map] at hx
    | true =>
      simp only [Except.map, ↓reduceIte, Except.ok.injEq] at hx
      rw [hx]

theorem sh_ok_false (t : Bytes) (X : M (Bool × H)) (h' : H) (hx : Sh t X (.ok (false, h'))) : ∃ x, X = .ok (false, x) := by
  unfold Sh normR at hx
  cases X with
  | error e => cases hx
  | ok p =>
    obtain ⟨b, x⟩ := p
    cases b with
    | false => exact ⟨x, rfl⟩
    | true => simp [Except.map] at hx

theorem next_shok (h : H) (hi : Inv h) (h' : H) (hn : next h = .ok (true, h')) : ShOK h' := by
  have mk : StOK h' → (h.pos < h'.pos ∨ h'.state ≠ .beforeAttrValue) → ShOK h' := by
    intro ⟨s1, s2, s3, s4, s5, s6⟩ hadv
    refine ⟨s1, s2, ?_, s4, s5, s6⟩
    intro hb
    rcases hadv with h1 | h1
    · omega
    · exact absurd hb h1
  rcases next_cases h hi with ⟨hs, hr⟩ | ⟨hs, g⟩ | ⟨hs, g⟩ | ⟨hs, g⟩
  · rw [hr] at hn; cases hn
  · obtain ⟨x, hr, a1, a2, a3, a4, a5⟩ := g
    rw [hr] at hn; cases hn
    exact mk a5 (Or.inl a3)
  · obtain ⟨b, x, hr, a1, a2, a3, a4⟩ := g
    rw [hr] at hn; cases hn
    obtain ⟨c1, c2, c3, c4⟩ := a4 rfl
    apply mk c4
    rcases c3 with c3 | c3 | c3
    · exact Or.inl c3
    · right; rcases c3 with c3 | c3 <;> rw [c3] <;> simp
    · right; rw [c3]; simp
  · obtain ⟨b, x, hr, a1, a2, a3, a4⟩ := g
    rw [hr] at hn; cases hn
    obtain ⟨c1, c2, c3, c4⟩ := a4 rfl
    apply mk c4
    rcases c3 with c3 | c3
    · exact Or.inl c3
    · right; rcases c3 with c3 | c3 <;> rw [c3] <;> simp

/-! ### the call-depth parameter is irrelevant once the call returns -/

def LeR (X Y : M (Bool × H)) : Prop := ∀ r, X = .ok r → Y = .ok r

theorem le_refl {X : M (Bool × H)} : LeR X X := fun _ h => h

theorem le_bind {α : Type} {x : M α} {f g : α → M (Bool × H)} (h : ∀ a, LeR (f a) (g a)) : LeR (x >>= f) (x >>= g) := by
  cases x with
  | error e => intro r hr; cases hr
  | ok a => exact h a

theorem le_ite {c : Prop} [Decidable c] {A B A' B' : M (Bool × H)} (hA : LeR A A') (hB : LeR B B') :
    LeR (if c then A else B) (if c then A' else B') := by
  split
  · exact hA
  · exact hB

theorem depth_mono : ∀ (d : Nat),
    (∀ h : H, LeR (stateEndTagOpen d h) (stateEndTagOpen (d + 1) h)) ∧
    (∀ h : H, LeR (stateTagOpen d h) (stateTagOpen (d + 1) h)) ∧
    (∀ h : H, LeR (stateData d h) (stateData (d + 1) h))
  | 0 => by
    refine ⟨?_, ?_, ?_⟩ <;> (intro h r hr; cases hr)
  | d + 1 => by
    obtain ⟨ihE, ihT, ihD⟩ := depth_mono d
    refine ⟨?_, ?_, ?_⟩
    · intro h
      unfold stateEndTagOpen
      refine le_ite le_refl (le_bind (fun ch => ?_))
      exact le_ite (ihD h) le_refl
    · intro h
      unfold stateTagOpen
      refine le_ite le_refl (le_bind (fun ch => ?_))
      refine le_ite le_refl ?_
      refine le_ite (ihE _) ?_
      refine le_ite le_refl ?_
      refine le_ite le_refl ?_
      refine le_ite le_refl ?_
      refine le_ite le_refl ?_
      exact le_ite (ihD h) le_refl
    · intro h
      unfold stateData
      refine le_bind (fun start => ?_)
      cases indexByte (h.s.drop h.pos) 60 with
      | none => exact le_refl
      | some i => exact le_ite (ihT _) le_refl

end LibInj.H5
