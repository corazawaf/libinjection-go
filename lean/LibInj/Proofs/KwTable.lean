import LibInj.Proofs.Tables
/-! Facts about the entries of the regenerated keyword table, checked by the kernel in one pass on every
build: walking the 9 352 entries costs the kernel about as much as the cheapest of the checkers, so the
checkers that the proofs of C01, C08, C14 and C20 rely on are evaluated together. -/
namespace LibInj.Sqli
open LibInj LibInj.Tables

/-- what a look-up can return: a documented class below 128, the class `f` only for keys of two bytes or more -/
def valOK (e : Entry) : Bool :=
  Nat.blt e.2.2 128 && isClass e.2.2 && (!(Nat.beq e.2.2 102) || Nat.ble 2 e.1) && Nat.ble 1 e.1

/-- a key that contains a space (a phrase such as `GROUP BY`) is no number (`1`), backslash or comment (`c`) -/
def phraseOK (e : Entry) : Bool :=
  !(Nat.beq e.2.2 49 || Nat.beq e.2.2 92 || Nat.beq e.2.2 99) || noByte 32 e.1 e.2.1

/-- a blacklisted fingerprint of two classes ends in `C` (comment) or `U` (union) -/
def twoFpOK (e : Entry) : Bool :=
  !(Nat.beq e.1 3 && Nat.beq e.2.2 70) || (Nat.beq (e.2.1 % 256) 67 || Nat.beq (e.2.1 % 256) 85)

/-- the low `k` bytes of `n` are all `N` (78), `1` (49), `V` (86), `,` (44), `?` (63) or `:` (58) and what remains is
`0` (48): `n` is the key `"0" ++ upper f` of a fingerprint over these six classes -/
def n1Key : Nat → Nat → Bool
  | 0, n => Nat.beq n 48
  | k+1, n => (Nat.beq (n % 256) 78 || Nat.beq (n % 256) 49 || Nat.beq (n % 256) 86 || Nat.beq (n % 256) 44 ||
      Nat.beq (n % 256) 63 || Nat.beq (n % 256) 58) && n1Key k (n / 256)

/-- an entry that would make a fingerprint over the six classes of `n1Key` blacklisted -/
def badEntry (e : Entry) : Bool := Nat.beq e.2.2 70 && Nat.ble 2 e.1 && n1Key (e.1 - 1) e.2.1

/-- some two adjacent base-256 digits of `n` (among its `k` low digits and the one above) are `.` and a blank -/
def hasDotBlank : Nat → Nat → Bool
  | 0, _ => false
  | k + 1, n => Nat.beq (n % 65536) (46 * 256 + 32) || hasDotBlank k (n / 256)

/-- every checker, on one entry -/
def entryOK (e : Entry) : Bool :=
  kwOK e && commentOnlyLast e && valOK e && phraseOK e && twoFpOK e && !badEntry e &&
    (!(Nat.beq (e.2.1 % 256) 46) && !(hasDotBlank e.1 e.2.1))

theorem keywords_entryOK : Gen.keywords.all entryOK = true := by decide +kernel

theorem entryOK_iff (e : Entry) : entryOK e = true ↔
    kwOK e = true ∧ commentOnlyLast e = true ∧ valOK e = true ∧ phraseOK e = true ∧ twoFpOK e = true ∧
    (!badEntry e) = true ∧ (!(Nat.beq (e.2.1 % 256) 46) && !(hasDotBlank e.1 e.2.1)) = true := by
  simp only [entryOK, Bool.and_eq_true, and_assoc]

theorem keywords_all {q : Entry → Bool} (hq : ∀ e, entryOK e = true → q e = true) : Gen.keywords.all q = true :=
  List.all_eq_true.mpr fun e he => hq e (List.all_eq_true.mp keywords_entryOK e he)

theorem kw_wf : Gen.keywords.all kwOK = true := keywords_all fun e h => ((entryOK_iff e).mp h).1

theorem kw_comment : Gen.keywords.all commentOnlyLast = true := keywords_all fun e h => ((entryOK_iff e).mp h).2.1

theorem keywords_valOK : Gen.keywords.all valOK = true := keywords_all fun e h => ((entryOK_iff e).mp h).2.2.1

theorem keywords_phraseOK : Gen.keywords.all phraseOK = true := keywords_all fun e h => ((entryOK_iff e).mp h).2.2.2.1

theorem keywords_twoFpOK : Gen.keywords.all twoFpOK = true := keywords_all fun e h => ((entryOK_iff e).mp h).2.2.2.2.1

theorem benign_fingerprints_absent_table : (Gen.keywords.all fun e => !badEntry e) = true :=
  keywords_all fun e h => ((entryOK_iff e).mp h).2.2.2.2.2.1

/-- no key ends in `.`, no key contains `. ` -/
theorem keys_dot_facts :
    (Gen.keywords.all fun e => !(Nat.beq (e.2.1 % 256) 46) && !(hasDotBlank e.1 e.2.1)) = true :=
  keywords_all fun e h => ((entryOK_iff e).mp h).2.2.2.2.2.2

end LibInj.Sqli
