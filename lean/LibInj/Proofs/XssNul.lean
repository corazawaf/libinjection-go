import LibInj.Proofs.XssShift
import LibInj.Proofs.XssLift
import LibInj.Proofs.NulClass
/-! C11 / C04: the verdict on `text <name rest` is "`name` is a black tag, or the verdict of what follows the
name", where what follows is read from a state that depends on `rest` only. NUL bytes inside the first
element name therefore never change the element-content verdict. -/
namespace LibInj.Xss
open LibInj LibInj.H5

theorem afterName_inv_shok (c : UInt8) (t : Bytes) : Inv (afterName (c :: t)) ∧ ShOK (afterName (c :: t)) ∧
    mu (afterName (c :: t)) ≤ 3 * (t.length + 1) + 1 := by
  -- `afterName (c :: t)` is one of three literal states over `c :: t`, at offset 1, 1 or 0. Every clause of `Inv` and of `ShOK`
  -- compares two constructors of `St`, or that offset with `|t| + 1`; the goal `mu` is `3 * (|t| + 1 - pos) + rank ≤ 3 * (|t| + 1) + 1`
  simp only [afterName]
  split
  rotate_left
  split
  all_goals
    refine ⟨⟨by simp, ?_, ?_, ?_⟩, ⟨?_, ?_, ?_, ?_, ?_, ?_⟩, ?mu⟩
    case mu => simp only [mu, rank, List.length_cons]; omega
    all_goals simp

theorem first_tag_verdict (name : Bytes) (c : UInt8) (t : Bytes) (hn : NameAt name (c :: t)) :
    isXSSCtx (60 :: (name ++ c :: t)) 0 =
      if isBlackTag name = true then .ok true else xssLoop (afterName (c :: t)) 0 (3 * (t.length + 1) + 2) := by
  unfold isXSSCtx xssFuel
  rw [show 3 * (60 :: (name ++ c :: t)).length + 4 = (3 * (60 :: (name ++ c :: t)).length + 3) + 1 by omega,
    xssLoop_tag _ _ 0 _ name (first_tag_next name c t hn) rfl (slice_mid [60] name _)]
  split
  · rfl
  · obtain ⟨hi, ho, hm⟩ := afterName_inv_shok c t
    exact xssLoop_sh _ _ _ _ _ _ (afterName (c :: t)) 0 hi ho (by omega) (by simp; omega)

theorem first_tag_verdict_eof (name : Bytes) (hn : NameAt name []) :
    isXSSCtx (60 :: name) 0 = .ok (isBlackTag name) := by
  have hslice : slice (60 :: name) 1 (1 + name.length) = .ok name := by simpa using slice_mid [60] name []
  unfold isXSSCtx xssFuel
  rw [show 3 * (60 :: name).length + 4 = (3 * (60 :: name).length + 2) + 1 + 1 by omega,
    xssLoop_tag _ _ 0 _ name (first_tag_next_eof name hn) rfl hslice, xssLoop_eof _ rfl]
  cases isBlackTag name <;> rfl

theorem nameAt_nul (n1 n2 rest : Bytes) (h1 : n1 ≠ []) (hn : NameAt (n1 ++ n2) rest) : NameAt (n1 ++ 0 :: n2) rest := by
  obtain ⟨c, t, hname, hc⟩ := hn.first
  refine ⟨?_, ?_, hn.stop⟩
  · cases n1 with
    | nil => exact absurd rfl h1
    | cons x xs =>
      simp only [List.cons_append, List.cons.injEq] at hname
      exact ⟨x, xs ++ 0 :: n2, rfl, by rw [hname.1]; exact hc⟩
  · have := hn.bytes
    simp only [List.all_append, List.all_cons, Bool.and_eq_true] at this ⊢
    exact ⟨this.1, by decide, this.2⟩

theorem nul_first_tag (p n1 n2 rest : Bytes) (hp : (60 : UInt8) ∉ p) (h1 : n1 ≠ []) (hn : NameAt (n1 ++ n2) rest) :
    isXSSCtx (p ++ 60 :: ((n1 ++ 0 :: n2) ++ rest)) 0 = isXSSCtx (p ++ 60 :: ((n1 ++ n2) ++ rest)) 0 := by
  rw [data_prefix _ p hp, data_prefix _ p hp]
  have hn' := nameAt_nul n1 n2 rest h1 hn
  have hb : isBlackTag (n1 ++ 0 :: n2) = isBlackTag (n1 ++ n2) := isBlackTag_nul n1 n2
  cases rest with
  | nil =>
    simp only [List.append_nil]
    rw [first_tag_verdict_eof _ hn', first_tag_verdict_eof _ hn, hb]
  | cons c t =>
    rw [first_tag_verdict _ c t hn', first_tag_verdict _ c t hn, hb]

end LibInj.Xss
