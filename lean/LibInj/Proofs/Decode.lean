import LibInj.Xss.Classify
import LibInj.Proofs.Index
/-! Totality and bounds of the character-reference decoder and of the URL matcher (C19, C02). -/
namespace LibInj.Xss
open LibInj

/-- table fact: the hex map has an entry for every byte, each a digit value or the sentinel 256 -/
theorem hexMap_facts : Gen.hexMap.length = 256 ∧ Gen.hexMap.all (fun v => v < 16 || v == 256) = true := by
  decide +kernel

theorem hexDec_ok (c : UInt8) : ∃ v, hexDec c = .ok v ∧ (v < 16 ∨ v = 256) := by
  unfold hexDec
  have hlt : c.toNat < Gen.hexMap.length := by rw [hexMap_facts.1]; exact c.toNat_lt
  rw [List.getElem?_eq_getElem hlt]
  refine ⟨_, rfl, ?_⟩
  have := List.all_eq_true.mp hexMap_facts.2 _ (List.getElem_mem hlt)
  simpa using this

/-- decoder results: a value in range, and between 1 and `|s|` bytes consumed -/
def DecOK (s : Bytes) (r : M (Int × Nat)) : Prop :=
  ∃ v c, r = .ok (v, c) ∧ 0 ≤ v ∧ v ≤ 0x1000FF ∧ 1 ≤ c ∧ c ≤ s.length

theorem decHexLoop_ok (s : Bytes) (hs : 1 ≤ s.length) :
    ∀ fuel val i, val ≤ 0x1000FF → 1 ≤ i → i ≤ s.length → s.length - i < fuel → DecOK s (decHexLoop s val i fuel) := by
  intro fuel
  induction fuel with
  | zero => intro val i _ _ _ hf; omega
  | succ fuel ih =>
    intro val i hv h1 h2 hf
    unfold decHexLoop
    by_cases hlt : i < s.length
    · simp only [hlt, ↓reduceIte, at'_ok hlt, bind, Except.bind, pure, Except.pure]
      split
      · exact ⟨val, i + 1, rfl, by omega, by omega, by omega, by omega⟩
      · obtain ⟨d, hd, hdv⟩ := hexDec_ok s[i]
        simp only [hd]
        split
        · exact ⟨val, i, rfl, by omega, by omega, h1, h2⟩
        · split
          · exact ⟨38, 1, rfl, by omega, by omega, by omega, hs⟩
          · rename_i hnot
            exact ih (val * 16 + d) (i + 1) (by omega) (by omega) (by omega) (by omega)
    · simp only [hlt, ↓reduceIte, pure, Except.pure]
      exact ⟨val, i, rfl, by omega, by omega, h1, h2⟩

theorem decDecLoop_ok (s : Bytes) (hs : 1 ≤ s.length) :
    ∀ fuel val i, val ≤ 0x1000FF → 1 ≤ i → i ≤ s.length → s.length - i < fuel → DecOK s (decDecLoop s val i fuel) := by
  intro fuel
  induction fuel with
  | zero => intro val i _ _ _ hf; omega
  | succ fuel ih =>
    intro val i hv h1 h2 hf
    unfold decDecLoop
    by_cases hlt : i < s.length
    · simp only [hlt, ↓reduceIte, at'_ok hlt, bind, Except.bind, pure, Except.pure]
      split
      · exact ⟨val, i + 1, rfl, by omega, by omega, by omega, by omega⟩
      · split
        · exact ⟨val, i, rfl, by omega, by omega, h1, h2⟩
        · split
          · exact ⟨38, 1, rfl, by omega, by omega, by omega, hs⟩
          · exact ih _ (i + 1) (by omega) (by omega) (by omega) (by omega)
    · simp only [hlt, ↓reduceIte, pure, Except.pure]
      exact ⟨val, i, rfl, by omega, by omega, h1, h2⟩

/-- **C19, decoder bounds.** The value never wraps around; that an overflowing reference is read as a literal `&`
is `C19.decode_overflow_is_ampersand` (four instances). -/
theorem htmlDecodeByteAt_ok (s : Bytes) (hs : s ≠ []) : DecOK s (htmlDecodeByteAt s) := by
  have hlen : 1 ≤ s.length := by
    cases s with
    | nil => exact absurd rfl hs
    | cons _ _ => simp
  have h0 : (s.length == 0) = false := by simp; omega
  unfold htmlDecodeByteAt
  simp only [h0, Bool.false_eq_true, ↓reduceIte, at'_ok (show 0 < s.length by omega), bind, Except.bind, pure, Except.pure]
  split
  · refine ⟨_, 1, rfl, by simp, ?_, by omega, hlen⟩
    have := s[0].toNat_lt
    simp; omega
  · rename_i hc
    have h2 : 2 ≤ s.length := by
      simp only [Bool.or_eq_true, bne_iff_ne, ne_eq, decide_eq_true_eq, not_or, Decidable.not_not, Nat.not_lt] at hc
      exact hc.2
    simp only [at'_ok (show 1 < s.length by omega)]
    split
    · exact ⟨38, 1, rfl, by omega, by omega, by omega, hlen⟩
    · rename_i hc2
      have h3 : 3 ≤ s.length := by
        simp only [Bool.or_eq_true, bne_iff_ne, ne_eq, decide_eq_true_eq, not_or, Decidable.not_not, Nat.not_lt] at hc2
        exact hc2.2
      simp only [at'_ok (show 2 < s.length by omega)]
      split
      · split
        · exact ⟨38, 1, rfl, by omega, by omega, by omega, hlen⟩
        · rename_i h4
          have h4' : 4 ≤ s.length := by simpa using h4
          simp only [at'_ok (show 3 < s.length by omega)]
          obtain ⟨d, hd, hdv⟩ := hexDec_ok s[3]
          simp only [hd]
          split
          · exact ⟨38, 1, rfl, by omega, by omega, by omega, hlen⟩
          · rename_i hne
            have : d < 16 := by
              rcases hdv with h | h
              · exact h
              · exact absurd (by simp [h]) hne
            exact decHexLoop_ok s hlen _ d 4 (by omega) (by omega) h4' (by omega)
      · split
        · exact ⟨38, 1, rfl, by omega, by omega, by omega, hlen⟩
        · have := s[2].toNat_lt
          exact decDecLoop_ok s hlen _ (s[2].toNat - 48) 3 (by omega) (by omega) h3 (by omega)

theorem htmlDecodeByteAt_nil : htmlDecodeByteAt [] = .ok (-1, 0) := by
  simp [htmlDecodeByteAt, pure, Except.pure]

theorem startsLoop_prefix : ∀ fuel (b : Bytes) (first : Bool) (acc : Bytes), b.length < fuel →
    ∃ tail, startsLoop b first acc fuel = .ok (acc ++ tail) := by
  intro fuel
  induction fuel with
  | zero => intro b _ _ hf; omega
  | succ fuel ih =>
    intro b first acc hf
    unfold startsLoop
    by_cases hb : b.length > 0
    · have hne : b ≠ [] := by intro h; simp [h] at hb
      obtain ⟨v, c, hr, _, _, hc1, hc2⟩ := htmlDecodeByteAt_ok b hne
      simp only [hb, ↓reduceIte, hr, hc2, bind, Except.bind, pure, Except.pure]
      have hdrop : (b.drop c).length < fuel := by simp; omega
      split
      · exact ih _ _ _ hdrop
      · split
        · exact ih _ _ _ hdrop
        · obtain ⟨tail, ht⟩ := ih (b.drop c) false (acc ++ [UInt8.ofNat ((if v ≥ 97 && v ≤ 122 then v - 32 else v).toNat % 256)]) hdrop
          exact ⟨UInt8.ofNat ((if v ≥ 97 && v ≤ 122 then v - 32 else v).toNat % 256) :: tail, by rw [ht]; simp⟩
    · simp only [hb, ↓reduceIte, pure, Except.pure]
      exact ⟨[], by simp⟩

theorem htmlEncodeStartsWith_ok (a b : Bytes) : ∃ r, htmlEncodeStartsWith a b = .ok r := by
  unfold htmlEncodeStartsWith
  obtain ⟨acc, h⟩ := startsLoop_prefix (b.length + 1) b true [] (by omega)
  simp only [h, bind, Except.bind, pure, Except.pure]
  exact ⟨_, rfl⟩

theorem anyStarts_ok (str : Bytes) : ∀ us, ∃ r, anyStarts str us = .ok r
  | [] => ⟨false, rfl⟩
  | u :: us => by
    unfold anyStarts
    obtain ⟨r, hr⟩ := htmlEncodeStartsWith_ok u str
    simp only [hr, bind, Except.bind, pure, Except.pure]
    cases r with
    | true => exact ⟨true, rfl⟩
    | false => simpa using anyStarts_ok str us

theorem isBlackURL_ok (s : Bytes) : ∃ r, isBlackURL s = .ok r := anyStarts_ok _ _

end LibInj.Xss
