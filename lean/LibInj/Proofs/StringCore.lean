import LibInj.Sqli.Token
import LibInj.Spec.Quote
import LibInj.Proofs.Index
/-! Refinement: the `IndexByte`-jumping, backward-counting loop of `parseStringCore` computes the
one-pass automaton `Spec.scan`, for every content and every delimiter other than the backslash (`coreLoop_spec`).
Then `clip` and `assign_ok` (what `assign` stores: every lexer proof uses them), and with them `parseStringCore_spec`. -/
namespace LibInj.Sqli
open LibInj LibInj.Spec

theorem trailingBs_snoc (s : Bytes) (c : UInt8) :
    trailingBs (s ++ [c]) = if c == 92 then trailingBs s + 1 else 0 := by
  simp [trailingBs, List.takeWhile_cons, isBackslash]
  split <;> simp_all

theorem esc_snoc (s : Bytes) (c : UInt8) :
    isBackslashEscaped (s ++ [c]) = if c == 92 then !isBackslashEscaped s else false := by
  unfold isBackslashEscaped
  rw [trailingBs_snoc]
  split
  · generalize trailingBs s = n
    rcases Nat.mod_two_eq_zero_or_one n with h | h <;> simp [Nat.add_mod, h]
  · simp

theorem scan_cons (d c : UInt8) (rest : Bytes) (odd : Bool) (n : Nat) :
    scan d (c :: rest) odd n =
      if c == d then
        if odd then scan d rest false (n + 1)
        else match rest with
          | c' :: rest' => if c' == d then scan d rest' false (n + 2) else some n
          | [] => some n
      else if c == 92 then scan d rest (!odd) (n + 1)
      else scan d rest false (n + 1) := by
  cases rest <;> simp only [scan]

/-- the automaton jumps the way `IndexByte` does: over the bytes before the next delimiter, keeping the parity of the
backslash run (`pre` is the text already read) -/
theorem scan_jump (d : UInt8) : ∀ (l pre : Bytes) (n : Nat), scan d l (isBackslashEscaped pre) n =
    match indexByte l d with
    | none => none
    | some i => scan d (l.drop i) (isBackslashEscaped (pre ++ l.take i)) (n + i)
  | [], _, _ => rfl
  | x :: xs, pre, n => by
    cases hx : x == d
    · have step : scan d (x :: xs) (isBackslashEscaped pre) n = scan d xs (isBackslashEscaped (pre ++ [x])) (n + 1) := by
        simp only [scan_cons, hx, esc_snoc, Bool.false_eq_true, ↓reduceIte]
        cases x == 92 <;> rfl
      rw [step, scan_jump d xs (pre ++ [x]) (n + 1)]
      simp only [indexByte, hx, Bool.false_eq_true, ↓reduceIte]
      cases indexByte xs d with
      | none => rfl
      | some j => simp only [Option.map_some, List.drop_succ_cons, List.take_succ_cons, List.append_assoc, List.singleton_append,
          Nat.add_assoc, Nat.add_comm 1 j]
    · simp only [indexByte, hx, ↓reduceIte, List.drop_zero, List.take_zero, List.append_nil, Nat.add_zero]

theorem coreLoop_scan (content : Bytes) (d : UInt8) (hd : d ≠ 92) :
    ∀ (fuel k : Nat), k ≤ content.length → content.length - k < fuel →
      coreLoop content d k fuel
        = .ok (scan d (content.drop k) (isBackslashEscaped (content.take k)) k) := by
  -- right after a delimiter the backslash run is empty
  have fresh : ∀ q (h : q < content.length), content[q] = d → isBackslashEscaped (content.take (q + 1)) = false := fun q h e => by
    rw [List.take_succ_eq_append_getElem h, esc_snoc, e, if_neg (by simpa using hd)]
  intro fuel
  induction fuel with
  | zero => intro k _ h; omega
  | succ fuel ih =>
    intro k hk hf
    unfold coreLoop
    rw [scan_jump]
    cases hi : indexByte (content.drop k) d with
    | none => rfl
    | some i =>
      have hq' : k + i < content.length := by have := indexByte_lt hi; rw [List.length_drop] at this; omega
      have hq : content[k + i] = d := by
        have := ((indexByte_some_iff _ _ _).mp hi).1
        rwa [List.getElem?_drop, List.getElem?_eq_getElem hq', Option.some.injEq] at this
      simp only [List.drop_drop, ← List.take_add]
      rw [List.drop_eq_getElem_cons hq', scan_cons, hq, beq_self_eq_true, if_pos rfl]
      split
      · rw [ih (k + i + 1) (by omega) (by omega), fresh _ hq' hq]
      · -- the loop reads the byte after the delimiter, the automaton matches on the text after it
        rw [show content[k + i + 1]? = (content.drop (k + i + 1))[0]? by rw [List.getElem?_drop, Nat.add_zero]]
        cases htail : content.drop (k + i + 1) with
        | nil => rfl
        | cons c' rest' =>
          simp only [List.getElem?_cons_zero, Option.some.injEq, beq_iff_eq]
          by_cases e : c' = d
          · have hn2 : k + i + 1 < content.length := by
              rcases Nat.lt_or_ge (k + i + 1) content.length with h | h
              · exact h
              · rw [List.drop_eq_nil_of_le h] at htail; cases htail
            rw [List.drop_eq_getElem_cons hn2] at htail
            obtain ⟨hc', hrest⟩ := List.cons.inj htail
            rw [if_pos e, if_pos e, ih (k + i + 2) (by omega) (by omega), hrest, fresh _ hn2 (hc'.trans e)]
          · rw [if_neg e, if_neg e]
theorem coreLoop_spec (content : Bytes) (d : UInt8) (hd : d ≠ 92) :
    coreLoop content d 0 (content.length + 1) = .ok (closingQuote content d) := by
  have := coreLoop_scan content d hd (content.length + 1) 0 (by omega) (by omega)
  simpa [closingQuote, isBackslashEscaped, trailingBs] using this

end LibInj.Sqli

namespace LibInj.Spec
open LibInj

theorem scan_bounds (d : UInt8) (l : Bytes) (odd : Bool) (n q : Nat) (h : scan d l odd n = some q) :
    n ≤ q ∧ q < n + l.length := by
  fun_induction scan d l odd n <;> simp_all <;> omega

theorem closingQuote_lt (content : Bytes) (d : UInt8) (q : Nat) (h : closingQuote content d = some q) :
    q < content.length := by
  have := scan_bounds d content false 0 q h
  omega

end LibInj.Spec

namespace LibInj.Sqli
open LibInj LibInj.Spec

/-- length after clipping to `tokenSize - 1` -/
def clip (n : Nat) : Nat := if n < tokenSize then n else tokenSize - 1

theorem assign_ok (t : Token) (cat : UInt8) (pos length : Nat) (value : Bytes) (h : clip length ≤ value.length) :
    assign t cat pos length value =
      .ok { t with cat := cat, pos := pos, len := clip length, val := value.take (clip length) } := by
  unfold assign slice clip at *
  simp only [Nat.zero_le, true_and, List.drop_zero, Nat.sub_zero, bind, Except.bind, pure, Except.pure]
  split <;> simp_all

theorem clip_eq (n : Nat) : clip n = min n 31 := by
  unfold clip tokenSize; simp only [Gen.tokenSize]; by_cases h : n < 32 <;> simp [h] <;> omega

theorem clip_le (n : Nat) : clip n ≤ n := by rw [clip_eq]; omega

/-- **`parseStringCore` in terms of the first real terminator** (every literal form that goes
through it: plain, virtual, back-tick, `n'`/`e'`/`u&'` prefixed, `@'v'`): the token is the content
up to the closing quote (clipped to 31 bytes), closed iff a closing quote exists, and scanning
resumes right after it; without a closing quote the literal runs to end of input, unclosed. -/
theorem parseStringCore_spec (t : Token) (rest : Bytes) (offset : Nat) (d : UInt8) (hd : d ≠ 92)
    (ho : offset ≤ rest.length) :
    parseStringCore t rest offset d = .ok (
      let content := rest.drop offset
      let t0 := { t with strOpen := if offset > 0 then d else 0 }
      match closingQuote content d with
      | none => { tok := { t0 with cat := 115, pos := offset, len := clip (rest.length - offset),
                                   val := content.take (clip (rest.length - offset)), strClose := 0 },
                  next := rest.length }
      | some q => { tok := { t0 with cat := 115, pos := offset, len := clip q,
                                     val := content.take (clip q), strClose := d },
                    next := offset + q + 1 }) := by
  unfold parseStringCore sliceFrom
  simp only [ho, ↓reduceIte, bind, Except.bind, coreLoop_spec _ d hd]
  cases hq : closingQuote (rest.drop offset) d with
  | none =>
    simp only []
    rw [assign_ok _ _ _ _ _ (by have := clip_le (rest.length - offset); simp; omega)]
    simp [pure, Except.pure]
  | some q =>
    have hlt := closingQuote_lt _ _ _ hq
    simp only []
    rw [assign_ok _ _ _ _ _ (by have := clip_le q; omega)]
    simp [pure, Except.pure]

end LibInj.Sqli
