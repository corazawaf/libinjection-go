import LibInj.Proofs.XssShift
import LibInj.Proofs.Index
import LibInj.Proofs.Case
/-! C04: the tokenizer carries a blacklisted element name, and an attribute `name = value` in any of the places where
an attribute can stand, to the classifiers of the `isXSS` loop.

The tokenizer side is positional: a state function is run on an input `pre ++ (what it scans) ++ rest` at position
`|pre|`. Where an attribute can stand is a fact about the steps *before* it (`element_reaches_attr`, and the first
lines of `attr_in_tag_context`, `attr_after_breakout`); what makes it dangerous is a fact about its two tokens
(`BlackAttr`, `attr_core`). -/
namespace LibInj.Xss
open LibInj LibInj.H5

theorem spn_run (p : UInt8 → Bool) (l rest : Bytes) (hl : l.all p = true)
    (hstop : rest = [] ∨ ∃ c t, rest = c :: t ∧ p c = false) : spn p (l ++ rest) = l.length := by
  induction l with
  | nil => rcases hstop with rfl | ⟨c, t, rfl, hc⟩ <;> simp [spn, *]
  | cons x xs ih =>
    simp only [List.all_cons, Bool.and_eq_true] at hl
    simp [spn, hl.1, ih hl.2]

theorem spnA_stop (p : UInt8 → Bool) (l : Bytes) (c : UInt8) (r : Bytes) (hl : l.all p = true) (hc : p c = false) :
    spn p (l ++ c :: r) = l.length :=
  spn_run p l _ hl (Or.inr ⟨c, r, rfl, hc⟩)

theorem slice_mid (a b c : Bytes) : slice (a ++ b ++ c) a.length (a.length + b.length) = .ok b := by
  rw [slice_ok _ _ _ (by omega) (by simp), List.append_assoc, List.drop_left, Nat.add_sub_cancel_left, List.take_left]

theorem getElem?_seam (a b : Bytes) : (a ++ b)[a.length]? = b[0]? :=
  getElem?_append_add a b 0

/-! ## element names -/

/-- an element name as the tokenizer scans it, followed by a byte that ends it (or by end of input) -/
structure NameAt (name rest : Bytes) : Prop where
  first : ∃ c t, name = c :: t ∧ (isAlpha c = true ∨ c = 0)
  bytes : name.all tagNameByte = true
  stop : rest = [] ∨ ∃ c t, rest = c :: t ∧ tagNameByte c = false

theorem spn_name (name rest : Bytes) (h : NameAt name rest) : spn tagNameByte (name ++ rest) = name.length :=
  spn_run _ name rest h.bytes h.stop

theorem stop_byte (c : UInt8) (h : tagNameByte c = false) : isH5White c = true ∨ c = 47 ∨ c = 62 := by
  unfold tagNameByte at h
  simp only [Bool.not_eq_false', Bool.or_eq_true, beq_iff_eq] at h
  rcases h with (h | h) | h
  · exact Or.inl h
  · exact Or.inr (Or.inl h)
  · exact Or.inr (Or.inr h)

/-- the machine state right after an element name, over the rest of the input alone -/
def afterName : Bytes → H
  | [] => { s := [], state := .eof }
  | c :: t =>
    if isH5White c then { s := c :: t, pos := 1, state := .beforeAttrName }
    else if c == 47 then { s := c :: t, pos := 1, state := .selfClosing }
    else { s := c :: t, pos := 0, state := .tagNameClose }

/-- the tag-name state on `pre ++ name ++ rest` (a delimiter follows): the name token, then the state after
the name shifted by `pre ++ name` -/
theorem tagName_after (h : H) (pre name : Bytes) (c : UInt8) (t : Bytes) (hs : h.s = pre ++ name ++ c :: t) (hpos : h.pos = pre.length)
    (hclose : h.isClose = false) (hn : NameAt name (c :: t)) :
    stateTagName h = .ok (true, shiftG (pre ++ name) pre.length name.length .tagNameOpen (afterName (c :: t))) := by
  have hlen : h.pos ≤ h.s.length := by rw [hs, hpos]; simp
  have hdrop : h.s.drop h.pos = name ++ c :: t := by
    rw [hs, hpos, List.append_assoc, List.drop_left]
  have hget : h.s[h.pos + name.length]? = some c := by
    rw [hs, hpos, ← List.length_append, getElem?_seam]; rfl
  have hc : tagNameByte c = false := by
    rcases hn.stop with h0 | ⟨c', t', he, hc'⟩
    · cases h0
    · cases he; exact hc'
  -- every branch emits the name and leaves the machine at offset `k` of the rest, in state `st`
  have key : ∀ k st, emit h h.pos (h.pos + name.length - h.pos) .tagNameOpen (h.pos + name.length + k) st =
      shiftG (pre ++ name) pre.length name.length .tagNameOpen { s := c :: t, pos := k, state := st } := by
    intro k st
    -- field by field; state and token type agree by `rfl`. Left over: the input (`hs`), the scan offset and the token's
    -- start and length (arithmetic on `hpos`), and the close flag (`hclose`)
    refine H_eq _ _ ?_ ?_ ?_ rfl ?_ ?_ rfl <;> simp [emit, shiftG, hs, hpos, hclose] <;> omega
  unfold stateTagName
  simp only [offFrom_ok hlen, bind, Except.bind, pure, Except.pure, hdrop, spn_name name (c :: t) hn, hget, afterName]
  rcases stop_byte c hc with hw | rfl | rfl
  · simp only [hw, ↓reduceIte, key 1]
  · simp only [show isH5White 47 = false by decide, Bool.false_eq_true, ↓reduceIte, beq_self_eq_true, key 1]
  · simp only [show isH5White 62 = false by decide, show ((62 : UInt8) == 47) = false by decide, Bool.false_eq_true, ↓reduceIte,
      hclose]
    exact congrArg (fun x => Except.ok (true, x)) (key 0 _)

theorem stateTagOpen_name (d : Nat) (h : H) (pre name rest : Bytes) (hs : h.s = pre ++ name ++ rest) (hpos : h.pos = pre.length)
    (hn : NameAt name rest) : stateTagOpen (d + 1) h = stateTagName h := by
  obtain ⟨c, t, hname, hc⟩ := hn.first
  have hget : h.s[h.pos]? = some c := by
    rw [hs, hpos, List.append_assoc, getElem?_seam, hname]; rfl
  have hlt : h.pos < h.s.length := getElem?_some_lt hget
  have hch : h.s[h.pos] = c := by
    rw [List.getElem?_eq_getElem hlt] at hget
    exact Option.some.inj hget
  unfold stateTagOpen
  have hge : ¬ h.pos ≥ h.s.length := by omega
  simp only [hge, ↓reduceIte, at'_ok hlt, hch, bind, Except.bind, pure, Except.pure]
  -- a letter or NUL is none of `!`, `/`, `?`, `%`
  have hne : (c == 33) = false ∧ (c == 47) = false ∧ (c == 63) = false ∧ (c == 37) = false := by
    rcases hc with hc | hc
    · have := forall_byte (fun c => !isAlpha c || (c != 33 && c != 47 && c != 63 && c != 37)) (by decide +kernel) c
      simp only [hc, Bool.not_true, Bool.false_or, Bool.and_eq_true, bne_iff_ne, ne_eq] at this
      obtain ⟨⟨⟨a1, a2⟩, a3⟩, a4⟩ := this
      simp [a1, a2, a3, a4]
    · subst hc; decide
  simp only [hne.1, hne.2.1, hne.2.2.1, hne.2.2.2, Bool.false_eq_true, ↓reduceIte]
  rcases hc with hc | hc
  · simp only [hc, ↓reduceIte]
  · subst hc
    have : isAlpha 0 = false := by decide
    simp only [this, Bool.false_eq_true, ↓reduceIte, beq_self_eq_true]

theorem first_lt (body : Bytes) :
    next (init (60 :: body) 0) = stateTagOpen 5 (emit (init (60 :: body) 0) 0 0 .dataText 1 .tagOpen) := by
  unfold next init
  simp only []
  have hi : indexByte ((60 :: body).drop 0) 60 = some 0 := by simp [indexByte]
  rw [show dataDepth = 5 + 1 from rfl, stateData_some 5 _ 0 (by simp) hi]
  rfl

theorem first_tag_next (name : Bytes) (c : UInt8) (t : Bytes) (hn : NameAt name (c :: t)) :
    next (init (60 :: (name ++ c :: t)) 0) =
      .ok (true, shiftG ([60] ++ name) 1 name.length .tagNameOpen (afterName (c :: t))) := by
  have hs : (60 :: (name ++ c :: t) : Bytes) = [60] ++ name ++ c :: t := rfl
  rw [first_lt, stateTagOpen_name 4 _ [60] name (c :: t) hs rfl hn]
  exact tagName_after _ [60] name c t hs rfl rfl hn

theorem first_tag_next_eof (name : Bytes) (hn : NameAt name []) :
    next (init (60 :: name) 0) =
      .ok (true, { s := 60 :: name, pos := 1, state := .eof, tokStart := 1, tokLen := name.length, tokType := .tagNameOpen }) := by
  rw [first_lt, stateTagOpen_name 4 _ [60] name [] (by simp [emit, init]) rfl hn]
  unfold stateTagName
  have hsp : spn tagNameByte name = name.length := by simpa using spn_name name [] hn
  have hget : (60 :: name)[1 + name.length]? = none := List.getElem?_eq_none (by simp; omega)
  simp [emit, init, offFrom, hsp, hget]
  rfl

/-- **C04, elements in element content**: after any `<`-free text, `<name` followed by a byte that
ends the name (or by end of input) and then by anything is reported, for every blacklisted name in
any spelling the classifier accepts -/
theorem black_tag_in_content (p name rest : Bytes) (hp : (60 : UInt8) ∉ p) (hn : NameAt name rest)
    (hb : isBlackTag name = true) : isXSSCtx (p ++ 60 :: (name ++ rest)) 0 = .ok true := by
  rw [data_prefix _ p hp]
  unfold isXSSCtx xssFuel
  cases rest with
  | nil =>
    have hslice : slice (60 :: name) 1 (1 + name.length) = .ok name := by simpa using slice_mid [60] name []
    rw [List.append_nil, xssLoop_tag _ _ 0 _ name (first_tag_next_eof name hn) rfl hslice, if_pos hb]
  | cons c t =>
    rw [xssLoop_tag _ _ 0 _ name (first_tag_next name c t hn) rfl (slice_mid [60] name _), if_pos hb]

/-! ## attributes -/

/-- an attribute name as the tokenizer scans it inside a tag -/
structure AttrAt (name : Bytes) : Prop where
  first : ∃ c t, name = c :: t ∧ isSkipWhite c = false ∧ c ≠ 47 ∧ c ≠ 62 ∧ t.all attrNameByte = true

theorem skipWhite_run (h : H) (pre ws rest : Bytes) (c : UInt8) (hs : h.s = pre ++ ws ++ c :: rest) (hpos : h.pos = pre.length)
    (hws : ws.all isSkipWhite = true) (hc : isSkipWhite c = false) :
    skipWhite h = ({ h with pos := pre.length + ws.length }, some c) := by
  unfold skipWhite
  have hdrop : h.s.drop h.pos = ws ++ c :: rest := by rw [hs, hpos, List.append_assoc, List.drop_left]
  have hget : h.s[h.pos + ws.length]? = some c := by
    rw [hs, hpos, ← List.length_append, getElem?_seam]; rfl
  rw [hpos] at hdrop hget
  simp only [hpos, hdrop, spnA_stop _ _ _ _ hws hc, hget]

theorem beforeAttrName_name (d : Nat) (h : H) (pre ws name rest : Bytes) (hs : h.s = pre ++ ws ++ name ++ 61 :: rest)
    (hpos : h.pos = pre.length) (hws : ws.all isSkipWhite = true) (hn : AttrAt name) :
    ∃ h2, stateBeforeAttributeName (d + 1) h = .ok (true, h2) ∧ h2.s = h.s ∧ h2.tokType = .attrName ∧
      slice h2.s h2.tokStart (h2.tokStart + h2.tokLen) = .ok name ∧ h2.state = .beforeAttrValue ∧
      h2.pos = (pre ++ ws ++ name ++ [61]).length := by
  obtain ⟨c, t, hname, hcw, h47, h62, ht⟩ := hn.first
  have hs2 : h.s = pre ++ ws ++ c :: (t ++ 61 :: rest) := by rw [hs, hname]; simp
  have hsA : h.s = (pre ++ ws ++ [c]) ++ (t ++ 61 :: rest) := by rw [hs2]; simp
  have hsB : h.s = (pre ++ ws ++ [c] ++ t) ++ 61 :: rest := by rw [hs2]; simp
  have hlen : h.s.length = pre.length + ws.length + name.length + 1 + rest.length := by rw [hs]; simp; omega
  have hnl : name.length = t.length + 1 := by rw [hname]; rfl
  have hsk := skipWhite_run h pre ws (t ++ 61 :: rest) c hs2 hpos hws hcw
  unfold stateBeforeAttributeName
  -- the slash-skipping loop stops at once on `c`
  have hban : banLoop h (h.s.length + 1) = .ok ({ h with pos := pre.length + ws.length }, some c, false) := by
    unfold banLoop
    have hlt : h.pos < h.s.length := by omega
    have e47 : (c == 47) = false := by simpa using h47
    simp only [hlt, ↓reduceIte, hsk, e47, Bool.false_eq_true]
  have e62 : (c == 62) = false := by simpa using h62
  simp only [hban, bind, Except.bind, Bool.false_eq_true, ↓reduceIte, e62]
  -- the attribute-name state reads `t` and stops at the `=`
  unfold stateAttributeName
  have hl3 : (pre ++ ws ++ [c]).length = pre.length + ws.length + 1 := by simp; omega
  have hdrop : h.s.drop (pre.length + ws.length + 1) = t ++ 61 :: rest := by
    rw [hsA, ← hl3, List.drop_left]
  have hget : h.s[pre.length + ws.length + 1 + t.length]? = some 61 := by
    rw [hsB, ← hl3, ← List.length_append, getElem?_seam]; rfl
  have hspn : spn attrNameByte (t ++ 61 :: rest) = t.length := spnA_stop _ _ _ _ ht (by decide)
  simp only [offFrom_ok (show pre.length + ws.length ≤ h.s.length by omega), hdrop, hspn, hget, bind, Except.bind, pure, Except.pure]
  have w61 : isH5White 61 = false := by decide
  have s61 : ((61 : UInt8) == 47) = false := by decide
  simp only [w61, s61, Bool.false_eq_true, ↓reduceIte, beq_self_eq_true]
  refine ⟨_, rfl, rfl, rfl, ?_, rfl, by simp [emit]; omega⟩
  show slice h.s (pre.length + ws.length) (pre.length + ws.length + (pre.length + ws.length + 1 + t.length - (pre.length + ws.length))) = _
  rw [show pre.length + ws.length + 1 + t.length - (pre.length + ws.length) = name.length by omega, hs,
    show pre ++ ws ++ name ++ 61 :: rest = (pre ++ ws) ++ name ++ 61 :: rest by simp, ← List.length_append]
  exact slice_mid _ name _

/-- an unquoted attribute value as the tokenizer scans it, followed by a byte that ends it (or by end of input) -/
structure ValAt (u rest : Bytes) : Prop where
  first : ∃ c t, u = c :: t ∧ isSkipWhite c = false ∧ c ≠ 34 ∧ c ≠ 39 ∧ c ≠ 96
  bytes : u.all noQuoteByte = true
  stop : rest = [] ∨ ∃ c t, rest = c :: t ∧ noQuoteByte c = false

/-- what follows the `=` of an attribute, when the value token is exactly `u`: blanks, then `u` between two quotes
of a kind, or `u` bare -/
inductive ValueTok : Bytes → Bytes → Prop
  | quoted (ws u rest : Bytes) (q : UInt8) : (q = 34 ∨ q = 39 ∨ q = 96) → q ∉ u → ws.all isSkipWhite = true →
      ValueTok (ws ++ q :: (u ++ q :: rest)) u
  | bare (ws u rest : Bytes) : ws.all isSkipWhite = true → ValAt u rest → ValueTok (ws ++ u ++ rest) u

theorem beforeAttrValue_token (h : H) (pre ws rest : Bytes) (c : UInt8) (hs : h.s = pre ++ ws ++ c :: rest) (hpos : h.pos = pre.length)
    (hws : ws.all isSkipWhite = true) (hc : isSkipWhite c = false) :
    ∃ h3, stateBeforeAttributeValue h = .ok (true, h3) ∧ h3.tokType = .attrValue := by
  have hlen : h.s.length = pre.length + ws.length + 1 + rest.length := by rw [hs]; simp; omega
  unfold stateBeforeAttributeValue
  simp only [skipWhite_run h pre ws rest c hs hpos hws hc]
  have hoff : offFrom h.s (pre.length + ws.length) = .ok (pre.length + ws.length) := offFrom_ok (by omega)
  have quote : ∀ q : UInt8, ∃ h3, stateAttributeValueQuote q { h with pos := pre.length + ws.length } = .ok (true, h3) ∧
      h3.tokType = .attrValue := by
    intro q
    unfold stateAttributeValueQuote
    have hoff1 : offFrom h.s (pre.length + ws.length + 1) = .ok (pre.length + ws.length + 1) := offFrom_ok (by omega)
    split <;> simp only [hoff, hoff1, bind, Except.bind, pure, Except.pure] <;> split <;> exact ⟨_, rfl, rfl⟩
  split
  · exact quote 34
  · split
    · exact quote 39
    · split
      · exact quote 96
      · unfold stateAttributeValueNoQuote
        simp only [hoff, bind, Except.bind, pure, Except.pure]
        split
        · exact ⟨_, rfl, rfl⟩
        · split <;> exact ⟨_, rfl, rfl⟩

theorem beforeAttrValue_text (h : H) (pre V u : Bytes) (hs : h.s = pre ++ V) (hpos : h.pos = pre.length) (hpre : 1 ≤ pre.length)
    (hv : ValueTok V u) :
    ∃ h3, stateBeforeAttributeValue h = .ok (true, h3) ∧ h3.tokType = .attrValue ∧
      slice h3.s h3.tokStart (h3.tokStart + h3.tokLen) = .ok u := by
  unfold stateBeforeAttributeValue
  cases hv with
  | quoted ws u rest q hq hu hws =>
    have hqw : isSkipWhite q = false := by rcases hq with rfl | rfl | rfl <;> decide
    have hs3 : h.s = (pre ++ ws ++ [q]) ++ u ++ q :: rest := by rw [hs]; simp
    have hl3 : (pre ++ ws ++ [q]).length = pre.length + ws.length + 1 := by simp; omega
    simp only [skipWhite_run h pre ws (u ++ q :: rest) q (by rw [hs]; simp) hpos hws hqw]
    have quote : ∃ h3, stateAttributeValueQuote q { h with pos := pre.length + ws.length } = .ok (true, h3) ∧
        h3.tokType = .attrValue ∧ slice h3.s h3.tokStart (h3.tokStart + h3.tokLen) = .ok u := by
      unfold stateAttributeValueQuote
      have hp0 : pre.length + ws.length > 0 := by omega
      have hdrop : h.s.drop (pre.length + ws.length + 1) = u ++ q :: rest := by
        rw [hs3, ← hl3, List.append_assoc (pre ++ ws ++ [q]), List.drop_left]
      simp only [hp0, ↓reduceIte, offFrom_ok (show pre.length + ws.length + 1 ≤ h.s.length by rw [hs3]; simp; omega), hdrop,
        indexByte_first u q rest hu, bind, Except.bind, pure, Except.pure]
      refine ⟨_, rfl, rfl, ?_⟩
      show slice h.s (pre.length + ws.length + 1) (pre.length + ws.length + 1 + u.length) = _
      rw [hs3, ← hl3]; exact slice_mid _ u _
    rcases hq with rfl | rfl | rfl
    · simp only [beq_self_eq_true, ↓reduceIte]; exact quote
    · have : ((39 : UInt8) == 34) = false := by decide
      simp only [this, Bool.false_eq_true, ↓reduceIte, beq_self_eq_true]; exact quote
    · have e1 : ((96 : UInt8) == 34) = false := by decide
      have e2 : ((96 : UInt8) == 39) = false := by decide
      simp only [e1, e2, Bool.false_eq_true, ↓reduceIte, beq_self_eq_true]; exact quote
  | bare ws u rest hws hval =>
    obtain ⟨c, t, hu, hcw, c34, c39, c96⟩ := hval.first
    have hs3 : h.s = (pre ++ ws) ++ u ++ rest := by rw [hs]; simp
    have hl3 : (pre ++ ws).length = pre.length + ws.length := by simp
    have hlen : h.s.length = pre.length + ws.length + u.length + rest.length := by rw [hs]; simp; omega
    simp only [skipWhite_run h pre ws (t ++ rest) c (by rw [hs, hu]; simp) hpos hws hcw]
    have e34 : (c == 34) = false := by simpa using c34
    have e39 : (c == 39) = false := by simpa using c39
    have e96 : (c == 96) = false := by simpa using c96
    simp only [e34, e39, e96, Bool.false_eq_true, ↓reduceIte]
    unfold stateAttributeValueNoQuote
    have hdrop : h.s.drop (pre.length + ws.length) = u ++ rest := by
      rw [hs3, ← hl3, List.append_assoc (pre ++ ws), List.drop_left]
    have hget : h.s[pre.length + ws.length + u.length]? = rest[0]? := by
      rw [hs3, ← hl3, ← List.length_append, getElem?_seam]
    have hsl : slice h.s (pre.length + ws.length) (pre.length + ws.length + u.length) = .ok u := by
      rw [hs3, ← hl3]; exact slice_mid _ u _
    have hl : pre.length + ws.length + u.length - (pre.length + ws.length) = u.length := by omega
    simp only [offFrom_ok (show pre.length + ws.length ≤ h.s.length by omega), bind, Except.bind, pure, Except.pure, hdrop,
      spn_run _ u rest hval.bytes hval.stop, hget]
    rcases hval.stop with rfl | ⟨c2, t2, rfl, hc2⟩
    · refine ⟨_, rfl, rfl, ?_⟩
      show slice h.s (pre.length + ws.length) (pre.length + ws.length + (h.s.length - (pre.length + ws.length))) = _
      rw [show h.s.length - (pre.length + ws.length) = u.length by rw [hlen, List.length_nil]; omega]; exact hsl
    · simp only [List.getElem?_cons_zero]
      split <;> exact ⟨_, rfl, rfl, by simp only [emit, hl]; exact hsl⟩

/-- an attribute `name = V` that the loop of `isXSS` reports: an event handler or other always-dangerous name
(class 1) or a style name (class 3) with any value at all, or a URL-bearing name (class 2) with a value that the URL
matcher reports -/
inductive BlackAttr (name : Bytes) : Bytes → Prop
  | any (ws rest : Bytes) (c : UInt8) : (isBlackAttr name = 1 ∨ isBlackAttr name = 3) → ws.all isSkipWhite = true →
      isSkipWhite c = false → BlackAttr name (ws ++ c :: rest)
  | url (V u : Bytes) : isBlackAttr name = 2 → ValueTok V u → isBlackURL u = .ok true → BlackAttr name V

theorem xssLoop_attrValue (h h3 : H) (attr fuel : Nat) (hn : next h = .ok (true, h3)) (ht : h3.tokType = .attrValue)
    (hv : attr = 1 ∨ attr = 3 ∨
      attr = 2 ∧ ∃ u, slice h3.s h3.tokStart (h3.tokStart + h3.tokLen) = .ok u ∧ isBlackURL u = .ok true) :
    xssLoop h attr (fuel + 1) = .ok true := by
  unfold xssLoop
  simp only [hn, bind, Except.bind, pure, Except.pure, Bool.not_true, Bool.false_eq_true, ↓reduceIte, ht, bne_self_eq_false]
  rcases hv with rfl | rfl | ⟨rfl, u, hu, hurl⟩
  · rfl
  · rfl
  · simp only [hu, hurl, ↓reduceIte]

/-- **C04, attributes**: from the before-attribute-name state, `ws name = V` with a black attribute is reported within
two steps: the name token sets the class, the value token is judged by it — whatever comes after -/
theorem attr_core (h0 h : H) (d : Nat) (hnext0 : next h0 = stateBeforeAttributeName (d + 1) h)
    (pre ws name V : Bytes) (hs : h.s = pre ++ ws ++ name ++ 61 :: V) (hpos : h.pos = pre.length)
    (hws : ws.all isSkipWhite = true) (hn : AttrAt name) (hb : BlackAttr name V) (attr fuel : Nat) :
    xssLoop h0 attr (fuel + 2) = .ok true := by
  obtain ⟨h2, e0, e1, e2, e3, e5, e6⟩ := beforeAttrName_name d h pre ws name V hs hpos hws hn
  rw [xssLoop_attrName h0 h2 attr (fuel + 1) name (hnext0.trans e0) e2 e3]
  have hs2 : h2.s = (pre ++ ws ++ name ++ [61]) ++ V := by rw [e1, hs]; simp
  have hnext2 : next h2 = stateBeforeAttributeValue h2 := by unfold next; rw [e5]
  cases hb with
  | any ws2 rest c hty hws2 hc =>
    obtain ⟨h3, f0, f1⟩ := beforeAttrValue_token h2 _ ws2 rest c (by rw [hs2]; simp) e6 hws2 hc
    exact xssLoop_attrValue h2 h3 _ fuel (hnext2.trans f0) f1 (by rcases hty with h | h <;> simp [h])
  | url _ u hty hv hurl =>
    obtain ⟨h3, f0, f1, f2⟩ := beforeAttrValue_text h2 _ V u hs2 e6 (by simp; omega) hv
    exact xssLoop_attrValue h2 h3 _ fuel (hnext2.trans f0) f1 (Or.inr (Or.inr ⟨hty, u, f2, hurl⟩))

/-- … in the unquoted-attribute context itself (`x onerror=…`, after any blanks) -/
theorem attr_in_tag_context (ws name V : Bytes) (hws : ws.all isSkipWhite = true) (hn : AttrAt name) (hb : BlackAttr name V) :
    isXSSCtx (ws ++ name ++ 61 :: V) 1 = .ok true :=
  attr_core (init _ 1) (init _ 1) 3 rfl [] ws name V rfl rfl hws hn hb 0 _

theorem valueQuote_at0 (h : H) (hp : h.pos = 0) (q : UInt8) (u rest : Bytes) (hs : h.s = u ++ q :: rest) (hu : q ∉ u) :
    stateAttributeValueQuote q h = .ok (true, emit h 0 u.length .attrValue (u.length + 1) .afterAttrValueQuoted) := by
  unfold stateAttributeValueQuote
  have hp0 : ¬ h.pos > 0 := by omega
  have hidx : indexByte (h.s.drop 0) q = some u.length := by rw [hs]; exact indexByte_first u q _ hu
  simp only [hp0, ↓reduceIte]
  simp only [hp, offFrom_ok (Nat.zero_le _), hidx, bind, Except.bind, pure, Except.pure, Nat.zero_add]

/-- … after breaking out of a quoted attribute value: `u q w name = V`, the value `u` free of the
quote `q`, `w` a white-space byte (`ctx` 2, 3, 4 for `'`, `"` and the back-tick) -/
theorem attr_after_breakout (ctx : Nat) (q : UInt8) (hctx : ctx = 2 ∧ q = 39 ∨ ctx = 3 ∧ q = 34 ∨ ctx = 4 ∧ q = 96)
    (u ws name V : Bytes) (w : UInt8) (hu : q ∉ u) (hw : isH5White w = true)
    (hws : ws.all isSkipWhite = true) (hn : AttrAt name) (hb : BlackAttr name V) :
    isXSSCtx (u ++ q :: w :: (ws ++ name ++ 61 :: V)) ctx = .ok true := by
  unfold isXSSCtx xssFuel
  generalize hS : u ++ q :: w :: (ws ++ name ++ 61 :: V) = S
  have hSl : S.length = u.length + 2 + (ws ++ name ++ 61 :: V).length := by rw [← hS]; simp; omega
  -- first step: the quoted value up to the quote, a token the loop passes over
  have hnext1 : next (init S ctx) = .ok (true, emit (init S ctx) 0 u.length .attrValue (u.length + 1) .afterAttrValueQuoted) := by
    have hq := valueQuote_at0 (init S ctx) rfl q u _ hS.symm hu
    unfold next
    rcases hctx with ⟨rfl, rfl⟩ | ⟨rfl, rfl⟩ | ⟨rfl, rfl⟩ <;> exact hq
  rw [show 3 * S.length + 4 = (3 * S.length + 1 + 2) + 1 from rfl]
  unfold xssLoop
  simp only [hnext1, bind, Except.bind, Bool.not_true, Bool.false_eq_true, ↓reduceIte, emit, bne_self_eq_false]
  -- second step: the white-space byte after the quote leads to the before-attribute-name state
  refine attr_core _ (H.mk S (u.length + 1 + 1) false St.afterAttrValueQuoted 0 u.length Ty.attrValue) 3 ?_
      (u ++ [q, w]) ws name V (by rw [← hS]; simp) (by simp) hws hn hb _ _
  have hlt : u.length + 1 < S.length := by omega
  have hch : S[u.length + 1] = w := by
    have : S[u.length + 1]? = some w := by
      rw [← hS, List.getElem?_append_right (by omega)]; simp
    rw [List.getElem?_eq_getElem hlt] at this
    exact Option.some.inj this
  unfold next
  simp only []
  unfold stateAfterAttributeValueQuotedState
  have hge : ¬ u.length + 1 ≥ S.length := by omega
  simp only [init, hge, ↓reduceIte, at'_ok hlt, hch, hw, bind, Except.bind]
  rfl

/-! ## attributes of an element in element content -/

theorem selfClosing_to_ban (h : H) (hst : h.state = .selfClosing) (c0 : UInt8) (hc : h.s[h.pos]? = some c0) (h62 : c0 ≠ 62) :
    next h = stateBeforeAttributeName 3 h := by
  have hlt : h.pos < h.s.length := getElem?_some_lt hc
  have hget : h.s[h.pos] = c0 := by
    rw [List.getElem?_eq_getElem hlt] at hc; exact Option.some.inj hc
  unfold next
  rw [hst]
  show stateSelfClosingStartTag (3 + 1) h = _
  unfold stateSelfClosingStartTag
  have hge : ¬ h.pos ≥ h.s.length := by omega
  have hne : (c0 == 62) = false := by simpa using h62
  simp only [hge, ↓reduceIte, at'_ok hlt, hget, hne, Bool.false_eq_true, bind, Except.bind]

theorem attr_first_not_gt (ws name rest : Bytes) (hws : ws.all isSkipWhite = true) (ha : AttrAt name) :
    ∃ c0, (ws ++ name ++ rest)[0]? = some c0 ∧ c0 ≠ 62 := by
  obtain ⟨c, t, hname, _, _, h62, _⟩ := ha.first
  cases ws with
  | nil => exact ⟨c, by rw [hname]; rfl, h62⟩
  | cons x xs =>
    simp only [List.all_cons, Bool.and_eq_true] at hws
    refine ⟨x, rfl, ?_⟩
    intro hx; rw [hx] at hws; exact absurd hws.1 (by decide)

/-- in element content, `<tag` and a separator — a white-space byte, or a `/` that `>` does not follow: unless the
element itself is reported, the loop comes to the before-attribute-name state behind the separator -/
theorem element_reaches_attr (tag A : Bytes) (sep : UInt8) (hn : NameAt tag (sep :: A))
    (hsep : isH5White sep = true ∨ sep = 47 ∧ ∃ c0, A[0]? = some c0 ∧ c0 ≠ 62) :
    ∃ h2 d, h2.s = 60 :: (tag ++ sep :: A) ∧ h2.pos = (60 :: (tag ++ [sep])).length ∧
      next h2 = stateBeforeAttributeName (d + 1) h2 ∧
      ∀ fuel, xssLoop (init (60 :: (tag ++ sep :: A)) 0) 0 (fuel + 1) =
        if isBlackTag tag = true then .ok true else xssLoop h2 0 fuel := by
  have hloop := fun fuel => xssLoop_tag _ _ 0 fuel tag (first_tag_next tag sep A hn) rfl (slice_mid [60] tag _)
  have hl : 1 + ([60] ++ tag).length = (60 :: (tag ++ [sep])).length := by simp; omega
  rcases hsep with hw | ⟨rfl, c0, hc0, h62⟩
  · have ha : afterName (sep :: A) = { s := sep :: A, pos := 1, state := .beforeAttrName } := by
      simp only [afterName, hw, ↓reduceIte]
    rw [ha] at hloop
    exact ⟨_, 3, rfl, hl, rfl, hloop⟩
  · have ha : afterName (47 :: A) = { s := 47 :: A, pos := 1, state := .selfClosing } := rfl
    rw [ha] at hloop
    refine ⟨_, 2, rfl, hl, selfClosing_to_ban _ rfl c0 ?_ h62, hloop⟩
    show ([60] ++ tag ++ 47 :: A)[1 + ([60] ++ tag).length]? = some c0
    rw [Nat.add_comm, List.getElem?_append_right (Nat.le_add_right _ 1), Nat.add_sub_cancel_left]
    exact hc0

/-- **C04, attributes of any element in element content**: `text <tag sep … name = V`, the separator a white-space
byte or `/` -/
theorem attr_in_element (p tag ws name V : Bytes) (sep : UInt8) (hp : (60 : UInt8) ∉ p)
    (hn : NameAt tag (sep :: (ws ++ name ++ 61 :: V))) (hsep : isH5White sep = true ∨ sep = 47)
    (hws : ws.all isSkipWhite = true) (ha : AttrAt name) (hb : BlackAttr name V) :
    isXSSCtx (p ++ 60 :: (tag ++ sep :: (ws ++ name ++ 61 :: V))) 0 = .ok true := by
  obtain ⟨h2, d, hs2, hpos, hnext, hloop⟩ := element_reaches_attr tag _ sep hn
    (hsep.imp_right fun h => ⟨h, attr_first_not_gt ws name _ hws ha⟩)
  rw [data_prefix _ p hp]
  unfold isXSSCtx xssFuel
  rw [show 3 * (60 :: (tag ++ sep :: (ws ++ name ++ 61 :: V))).length + 4 = (3 * (60 :: (tag ++ sep :: (ws ++ name ++ 61 :: V))).length + 1 + 2) + 1 from rfl,
    hloop]
  split
  · rfl
  · exact attr_core h2 h2 d hnext (60 :: (tag ++ [sep])) ws name V (by rw [hs2]; simp) hpos hws ha hb 0 _

theorem url_attr_in_tag_context (ws name ws2 u rest : Bytes) (q : UInt8) (hq : q = 34 ∨ q = 39 ∨ q = 96)
    (hws : ws.all isSkipWhite = true) (hws2 : ws2.all isSkipWhite = true) (hu : q ∉ u) (hn : AttrAt name)
    (hty : isBlackAttr name = 2) (hurl : isBlackURL u = .ok true) :
    isXSSCtx (ws ++ name ++ 61 :: (ws2 ++ q :: (u ++ q :: rest))) 1 = .ok true :=
  attr_in_tag_context ws name _ hws hn (.url _ u hty (.quoted ws2 u rest q hq hu hws2) hurl)

end LibInj.Xss
