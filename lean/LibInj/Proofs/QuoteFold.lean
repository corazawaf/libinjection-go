import LibInj.Proofs.QuoteShift
import LibInj.Proofs.QuoteSlot
import LibInj.Proofs.SqlCase
import LibInj.Proofs.FingerprintOK
/-! C12, the quote shift: the scanner state of the in-quote reading of `x`, mapped by `phiS`
(input `q :: x`, offsets + 1, the virtual opening quote made real), is the scanner state of the as-is
reading of `q :: x`, through `tokenize`, the raw token stream, every fold rule, the loops, the fingerprint
and the whitelist. Names: `_phi` an operation commutes with the map (for a loop: on whatever it returns, with
the slot-0 invariant alongside); `_sim` the same stated with `Sim`; `_quote` the two readings from their initial states. -/
namespace LibInj.Sqli
open LibInj

/-- token of the in-quote reading ↦ token of the as-is reading: one byte further; the string token
that starts at offset 0 of the in-quote reading gets its opening quote. Empty slots stay empty. -/
def phiTok (q : UInt8) (t : Token) : Token :=
  if t.pos == 0 then (if t.strClose != 0 || t.len != 0 then { t with pos := 1, strOpen := q } else t)
  else { t with pos := t.pos + 1 }

@[simp] theorem phiTok_cat (q : UInt8) (t : Token) : (phiTok q t).cat = t.cat := by unfold phiTok; split <;> (try split) <;> rfl
@[simp] theorem phiTok_len (q : UInt8) (t : Token) : (phiTok q t).len = t.len := by unfold phiTok; split <;> (try split) <;> rfl
@[simp] theorem phiTok_val (q : UInt8) (t : Token) : (phiTok q t).val = t.val := by unfold phiTok; split <;> (try split) <;> rfl
@[simp] theorem phiTok_count (q : UInt8) (t : Token) : (phiTok q t).count = t.count := by unfold phiTok; split <;> (try split) <;> rfl
@[simp] theorem phiTok_strClose (q : UInt8) (t : Token) : (phiTok q t).strClose = t.strClose := by unfold phiTok; split <;> (try split) <;> rfl

theorem phiTok_open96 (q : UInt8) (hq : q ≠ 96) (t : Token) (h0 : t.pos = 0 → t.strOpen ≠ 96) :
    ((phiTok q t).strOpen == 96) = (t.strOpen == 96) := by
  unfold phiTok
  split
  · rename_i hp
    have hp' : t.pos = 0 := by simpa using hp
    split
    · show (q == 96) = (t.strOpen == 96)
      have := h0 hp'
      rw [beq_eq_false_iff_ne.mpr hq, beq_eq_false_iff_ne.mpr this]
    · rfl
  · rfl

theorem phiTok_withCat (q : UInt8) (t : Token) (c : UInt8) : phiTok q { t with cat := c } = { phiTok q t with cat := c } := by
  unfold phiTok
  simp only []
  split <;> (try split) <;> rfl

/-- the as-is flags with the same comment mode -/
def asIs (fl : Nat) : Nat :=
  if hasFlag fl flagMysql then (if hasFlag fl flagAnsi then 25 else 17) else (if hasFlag fl flagAnsi then 9 else 1)

theorem modeEq_asIs (fl : Nat) : ModeEq (asIs fl) fl := by
  unfold ModeEq asIs
  cases h1 : hasFlag fl flagMysql <;> cases h2 : hasFlag fl flagAnsi <;> simp only [Bool.false_eq_true, ↓reduceIte] <;>
    exact ⟨rfl, rfl⟩

theorem asIs_noquote (fl : Nat) : (hasFlag (asIs fl) flagQuoteSingle || hasFlag (asIs fl) flagQuoteDouble) = false := by
  unfold asIs
  cases hasFlag fl flagMysql <;> cases hasFlag fl flagAnsi <;> simp only [Bool.false_eq_true, ↓reduceIte] <;> rfl

theorem asIs_ne_zero (fl : Nat) : asIs fl ≠ 0 := by
  unfold asIs
  split <;> split <;> decide

theorem quoted_ne_zero {F : Nat} (hF : (hasFlag F flagQuoteSingle || hasFlag F flagQuoteDouble) = true) : F ≠ 0 := by
  rintro rfl
  exact absurd hF (by decide)

theorem delim_cases {F : Nat} {q : UInt8} (hF : (hasFlag F flagQuoteSingle || hasFlag F flagQuoteDouble) = true)
    (hd : flag2Delim F = q) : q = 39 ∨ q = 34 := by
  unfold flag2Delim at hd
  cases h1 : hasFlag F flagQuoteSingle with
  | true => left; rw [← hd, h1]; rfl
  | false =>
    rw [h1, Bool.false_or] at hF
    right; rw [← hd, h1, hF]; rfl

def phiS (q : UInt8) (s : State) : State :=
  { s with input := q :: s.input, flags := asIs s.flags, pos := s.pos + 1, tv := s.tv.map (phiTok q) }

def phiF (q : UInt8) (f : FS) : FS := { f with s := phiS q f.s, lastComment := phiTok q f.lastComment }

@[simp] theorem phiS_cur (q : UInt8) (s : State) : (phiS q s).cur = s.cur := rfl
@[simp] theorem phiS_toks (q : UInt8) (s : State) : (phiS q s).toks = s.toks := rfl
@[simp] theorem phiS_pos (q : UInt8) (s : State) : (phiS q s).pos = s.pos + 1 := rfl
@[simp] theorem phiS_input (q : UInt8) (s : State) : (phiS q s).input = q :: s.input := rfl
@[simp] theorem phiS_flags (q : UInt8) (s : State) : (phiS q s).flags = asIs s.flags := rfl
@[simp] theorem phiF_pos (q : UInt8) (f : FS) : (phiF q f).pos = f.pos := rfl
@[simp] theorem phiF_left (q : UInt8) (f : FS) : (phiF q f).left = f.left := rfl
@[simp] theorem phiF_more (q : UInt8) (f : FS) : (phiF q f).more = f.more := rfl
@[simp] theorem phiF_s (q : UInt8) (f : FS) : (phiF q f).s = phiS q f.s := rfl
@[simp] theorem phiF_lc (q : UInt8) (f : FS) : (phiF q f).lastComment = phiTok q f.lastComment := rfl

theorem tvGet_phi (q : UInt8) (s : State) (i : Nat) : tvGet (phiS q s) i = (tvGet s i).map (phiTok q) := by
  unfold tvGet phiS
  simp only [List.getElem?_map]
  cases s.tv[i]? <;> rfl

theorem tvSet_phi (q : UInt8) (s : State) (i : Nat) (t' t : Token) (h : t' = phiTok q t) :
    tvSet (phiS q s) i t' = (tvSet s i t).map (phiS q) := by
  rw [h]
  unfold tvSet phiS
  simp only [List.length_map]
  split
  · simp [Except.map, List.map_set]
  · rfl

theorem isUnaryOp_phi (q : UInt8) (t : Token) : (phiTok q t).isUnaryOp = t.isUnaryOp := by
  unfold Token.isUnaryOp
  simp only [phiTok_cat, phiTok_len, phiTok_val]

theorem isArithmeticOp_phi (q : UInt8) (t : Token) : (phiTok q t).isArithmeticOp = t.isArithmeticOp := by
  unfold Token.isArithmeticOp
  simp only [phiTok_cat, phiTok_len, phiTok_val]

theorem valOf_phi (q : UInt8) (t : Token) : valOf (phiTok q t) = valOf t := by
  unfold valOf
  simp only [phiTok_len, phiTok_val]

theorem isIfToken_phi (q : UInt8) (a b : Token) : isIfToken (phiTok q a) (phiTok q b) = isIfToken a b := by
  unfold isIfToken
  simp only [phiTok_cat, phiTok_val]

theorem assign_phi (q : UInt8) (a : Token) (ch : UInt8) (v : Bytes) (hp : a.pos ≠ 0) :
    assign (phiTok q a) ch (phiTok q a).pos v.length v = (assign a ch a.pos v.length v).map (phiTok q) := by
  rw [assign_ok _ _ _ _ _ (clip_le _), assign_ok _ _ _ _ _ (clip_le _)]
  show Except.ok _ = Except.ok _
  congr 1
  unfold phiTok
  simp only [beq_eq_false_iff_ne.mpr hp, Bool.false_eq_true, ↓reduceIte]

/-- `merge` commutes with the map when the token it would rewrite lies right of offset 0
(the token at offset 0 is a string, which `merge` leaves alone) -/
theorem merge_phi (q : UInt8) (a b : Token) (h : mergeA a.cat = true → a.pos ≠ 0) :
    merge (phiTok q a) (phiTok q b) = (merge a b).map (Option.map (phiTok q)) := by
  unfold merge
  simp only [phiTok_cat, phiTok_len, phiTok_val]
  cases hA : mergeA a.cat with
  | false => rfl
  | true =>
    simp only [Bool.not_true, Bool.false_eq_true, ↓reduceIte]
    refine iteM _ _ _ _ _ _ rfl ?_
    refine iteM _ _ _ _ _ _ rfl ?_
    refine bmG _ _ _ _ (fun x => ?_)
    refine bmG _ _ _ _ (fun y => ?_)
    refine iteM _ _ _ _ _ _ ?_ rfl
    rw [assign_phi q a _ _ (h hA), assign_ok _ _ _ _ _ (clip_le _)]
    rfl

/-! ### the fold rules

One walk through each rule body gives both facts: the as-is run is the image of the in-quote run
(every test a rule makes reads fields the map preserves), and the in-quote run keeps the string in slot 0. -/

def phiStep (q : UInt8) : Step → Step
  | .cont f => .cont (phiF q f)
  | .brk f => .brk (phiF q f)
  | .ret n f => .ret n (phiF q f)

def phiTwo (q : UInt8) : Two → Two
  | .done s => .done (phiStep q s)
  | .next f => .next (phiF q f)

/-- `X'` is the image of `X` under `φ`, and whatever `X` returns satisfies `P` -/
def Sim {β : Type} (φ : β → β) (P : β → Prop) (X' X : M β) : Prop := X' = X.map φ ∧ PostP P X

section sim
variable {α β : Type} {φ : β → β} {P : β → Prop}

theorem sim_ite (c : Prop) [Decidable c] {A' B' A B : M β} (hA : c → Sim φ P A' A) (hB : ¬ c → Sim φ P B' B) :
    Sim φ P (if c then A' else B') (if c then A else B) := by
  by_cases h : c
  · rw [if_pos h, if_pos h]; exact hA h
  · rw [if_neg h, if_neg h]; exact hB h

theorem sim_bind (Q : α → Prop) (m : α → α) {x : M α} {f' f : α → M β} (hx : PostP Q x)
    (h : ∀ a, Q a → Sim φ P (f' (m a)) (f a)) : Sim φ P (x.map m >>= f') (x >>= f) := by
  cases x with
  | error e => exact ⟨rfl, fun _ h => nomatch h⟩
  | ok a => exact h a (hx a rfl)

theorem sim_seq {m : α → α} {Q : α → Prop} {X' X : M α} {f' f : α → M β} (hx : Sim m Q X' X)
    (h : ∀ a, Q a → Sim φ P (f' (m a)) (f a)) : Sim φ P (X' >>= f') (X >>= f) := by
  rw [hx.1]; exact sim_bind Q m hx.2 h

theorem sim_same (Q : α → Prop) {x : M α} {f' f : α → M β} (hx : PostP Q x) (h : ∀ a, Q a → Sim φ P (f' a) (f a)) :
    Sim φ P (x >>= f') (x >>= f) := by
  cases x with
  | error e => exact ⟨rfl, fun _ h => nomatch h⟩
  | ok a => exact h a (hx a rfl)

theorem sim_any {x : M α} {f' f : α → M β} (h : ∀ a, Sim φ P (f' a) (f a)) : Sim φ P (x >>= f') (x >>= f) :=
  sim_same (fun _ => True) (fun _ _ => trivial) (fun a _ => h a)

theorem sim_pure {a' a : β} (h : a' = φ a) (hp : P a) : Sim φ P (pure a') (pure a) :=
  ⟨by rw [h]; rfl, post_pure _ _ hp⟩

theorem sim_ok {X' X : M β} (hs : Sim φ P X' X) {r : β} (h : X = .ok r) : X' = .ok (φ r) ∧ P r :=
  ⟨by rw [hs.1, h]; rfl, hs.2 r h⟩

variable {q : UInt8}

theorem dec_phi (f : FS) (k : Nat) : (phiF q f).dec k = (f.dec k).map (phiF q) := by
  unfold FS.dec sub
  by_cases hk : k ≤ f.pos <;> simp only [phiF_pos, hk, ↓reduceIte] <;> rfl

theorem sim_dec (f : FS) (k : Nat) {G' G : FS → β} (hG : ∀ x, G' (phiF q x) = φ (G x))
    (hP : P (G { f with pos := f.pos - k })) :
    Sim φ P ((phiF q f).dec k >>= fun x => pure (G' x)) (f.dec k >>= fun x => pure (G x)) := by
  rw [dec_phi]
  exact sim_bind _ _ (dec_post f k) (fun x hx => sim_pure (hG x) (hx ▸ hP))

theorem sim_set {s : State} {i : Nat} {t' : Token} (t : Token) (ht : t' = phiTok q t) {G1 G2 : State → M β}
    (h0 : Slot0 s) (hi : i ≠ 0) (hq : Quiet t) (h : ∀ s', Slot0 s' → Sim φ P (G1 (phiS q s')) (G2 s')) :
    Sim φ P (tvSet (phiS q s) i t' >>= G1) (tvSet s i t >>= G2) := by
  rw [tvSet_phi q s i t' t ht]
  exact sim_bind _ _ (tvSet_post s i t h0 hi hq) (fun s' hs' => h s' hs'.1)

end sim

/-- a re-categorised token, in the form `simp` leaves it in -/
theorem phiTok_recat (q : UInt8) (t : Token) (c : UInt8) :
    ({ pos := (phiTok q t).pos, len := t.len, count := (phiTok q t).count, cat := c, strOpen := (phiTok q t).strOpen,
       strClose := (phiTok q t).strClose, val := t.val } : Token) = phiTok q { t with cat := c } := by
  unfold phiTok
  simp only []
  split <;> (try split) <;> rfl

theorem foldTwo_sim (q : UInt8) (f : FS) (hK : KF f) (h2 : f.left + 2 ≤ f.pos) :
    Sim (phiTwo q) KTwo (foldTwo (phiF q f)) (foldTwo f) := by
  obtain ⟨h0, hp1, hq⟩ := hK
  unfold foldTwo
  simp only [phiF_s, phiF_left, tvGet_phi]
  refine sim_bind _ _ (tvGet_post f.s f.left) (fun a ha => ?_)
  refine sim_bind _ _ (tvGet_post f.s (f.left + 1)) (fun b hb => ?_)
  have hqb : Quiet b := h0.2.1 _ b (by omega) hb
  -- a rule that fires on the class of `a` (of `b`) sees a token right of offset 0, outside slot 0
  have win := window_tok f.s h0 f.left a ha
  have winb : b.cat ≠ 0 → b.pos ≠ 0 := fun h hp => h (hqb hp)
  have hm : mergeA a.cat = true → a.pos ≠ 0 := fun hA => (win (mergeA_window hA)).2
  simp only [isUnaryOp_phi, isArithmeticOp_phi, phiTok_cat, phiTok_len, phiTok_val, valOf_phi, merge_phi q a b hm, isIfToken_phi]
  refine sim_any (fun bUnary => ?_)
  have d1 : 1 ≤ f.pos - 1 := by omega
  have same : ∀ s', Slot0 s' → KF { f with s := s' } := fun s' hs' => ⟨hs', hp1, hq⟩
  have less : ∀ s', Slot0 s' → KF { f with s := s', pos := f.pos - 1 } := fun s' hs' => ⟨hs', d1, hq⟩
  refine sim_ite _ (fun _ => sim_dec f 1 (fun x => rfl) (less _ h0)) (fun _ => ?_)
  refine sim_ite _ (fun _ => sim_dec f 1 (fun x => rfl) (less _ h0)) (fun _ => ?_)
  refine sim_ite _ (fun _ => sim_dec f 1 (fun x => rfl) (less _ h0)) (fun _ => ?_)
  refine sim_ite _ (fun _ => sim_dec f 1 (fun x => rfl) (less _ h0)) (fun _ => ?_)
  refine sim_bind _ _ (merge_post a b) (fun o ho => ?_)
  cases o with
  | some a' =>
    obtain ⟨hw, hpa⟩ := ho a' rfl
    obtain ⟨hl, hpos⟩ := win hw
    exact sim_set a' rfl h0 hl (quiet_of_pos (by rw [hpa]; exact hpos))
      (fun s' hs' => sim_dec { f with s := s' } 1 (fun x => rfl) (less s' hs'))
  | none =>
  simp only [Option.map_none]
  refine sim_same (fun r => r = true → b.cat = 102) (fun r h hr => isIfToken_true a b (hr ▸ h)) (fun isIF hIF => ?_)
  refine sim_ite _ (fun hc => ?_) (fun _ => ?_)
  · exact sim_set { b with cat := 84 } (phiTok_recat q b 84) h0 (by omega) (quiet_of_pos (winb (by rw [hIF hc]; decide)))
      (fun s' hs' => sim_pure rfl (same s' hs'))
  refine sim_any (fun av => ?_)
  refine sim_ite _ (fun hc => ?_) (fun _ => ?_)
  · obtain ⟨hl, hpos⟩ := win (by rintro (h | h) <;> simp [h] at hc)
    exact sim_set { a with cat := 102 } (phiTok_recat q a 102) h0 hl (quiet_of_pos hpos) (fun s' hs' => sim_pure rfl (same s' hs'))
  refine sim_ite _ (fun hc => ?_) (fun _ => ?_)
  · obtain ⟨hl, hpos⟩ := win (by rintro (h | h) <;> simp [h] at hc)
    exact sim_set { a with cat := if b.cat == 40 then 111 else 110 } (phiTok_recat q a _) h0 hl (quiet_of_pos hpos)
      (fun s' hs' => sim_pure rfl (same s' hs'))
  refine sim_ite _ (fun hc => ?_) (fun _ => ?_)
  · obtain ⟨hl, hpos⟩ := win (by rintro (h | h) <;> simp [h] at hc)
    refine sim_ite _ (fun _ => ?_) (fun _ => sim_pure rfl (same _ h0))
    exact sim_set { a with cat := 102 } (phiTok_recat q a 102) h0 hl (quiet_of_pos hpos) (fun s' hs' => sim_pure rfl (same s' hs'))
  refine sim_ite _ (fun hc => ?_) (fun _ => ?_)
  · obtain ⟨hl, _⟩ := win (by rintro (h | h) <;> simp [h] at hc)
    exact sim_set b rfl h0 hl hqb (fun s' hs' => sim_dec { f with s := s' } 1 (fun x => rfl) (less s' hs'))
  refine sim_ite _ (fun hc => ?_) (fun _ => ?_)
  · refine sim_ite _ (fun _ => ?_) (fun _ => sim_pure rfl (same _ h0))
    exact sim_set { b with cat := 116 } (phiTok_recat q b 116) h0 (by omega) (quiet_of_pos (winb (by intro h; simp [h] at hc)))
      (fun s' hs' => sim_pure rfl (same s' hs'))
  refine sim_ite _ (fun hc => ?_) (fun _ => ?_)
  · obtain ⟨hl, hpos⟩ := win (by rintro (h | h) <;> simp [h] at hc)
    refine sim_any (fun ar => ?_)
    refine sim_ite _ (fun _ => ?_) (fun _ => ?_)
    · exact sim_set { a with cat := 49 } (phiTok_recat q a 49) h0 hl (quiet_of_pos hpos) (fun s' hs' => sim_pure rfl (same s' hs'))
    · exact sim_set b rfl h0 hl hqb (fun s' hs' => sim_dec { f with s := s' } 1 (fun x => rfl) (less s' hs'))
  refine sim_ite _ (fun _ => sim_dec f 1 (fun x => rfl) (less _ h0)) (fun _ => ?_)
  refine sim_ite _ (fun _ => sim_dec f 1 (fun x => rfl) (less _ h0)) (fun _ => ?_)
  refine sim_ite _ (fun hc => ?_) (fun _ => ?_)
  · refine sim_ite _ (fun _ => ?_) (fun _ => ?_)
    · exact sim_set { b with cat := 88 } (phiTok_recat q b 88) h0 (by omega) (quiet_of_pos (winb (by intro h; simp [h] at hc)))
        (fun s' hs' => sim_pure rfl hs')
    · -- two tokens dropped: `omega` needs that the window does not start at the string
      have hl : f.left ≠ 0 := (win (by rintro (h | h) <;> simp [h] at hc)).1
      exact sim_dec f 2 (fun x => rfl) ⟨h0, by show 1 ≤ f.pos - 2; omega, hq⟩
  refine sim_ite _ (fun _ => sim_dec f 1 (fun x => rfl) (less _ h0)) (fun _ => ?_)
  exact sim_pure rfl (same _ h0)

theorem foldThree_sim (q : UInt8) (f : FS) (hK : KF f) (h3 : f.left + 3 ≤ f.pos) :
    Sim (phiStep q) KStep (foldThree (phiF q f)) (foldThree f) := by
  obtain ⟨h0, hp1, hq⟩ := hK
  unfold foldThree
  simp only [phiF_s, phiF_left, tvGet_phi]
  refine sim_bind _ _ (tvGet_post f.s f.left) (fun a ha => ?_)
  refine sim_bind (fun _ => True) _ (fun _ _ => trivial) (fun b _ => ?_)
  refine sim_bind _ _ (tvGet_post f.s (f.left + 2)) (fun c hc => ?_)
  have hqc : Quiet c := h0.2.1 _ c (by omega) hc
  have win := window_tok f.s h0 f.left a ha
  simp only [isUnaryOp_phi, phiTok_cat, valOf_phi]
  refine sim_any (fun bUnary => ?_)
  have less : ∀ k, (k = 3 → f.left ≠ 0) → k ≤ 3 → ∀ s', Slot0 s' → KF { f with s := s', pos := f.pos - k } :=
    fun k hl hk s' hs' => ⟨hs', by show 1 ≤ f.pos - k; omega, hq⟩
  have two : ∀ s', Slot0 s' → KF { f with s := s', pos := f.pos - 2 } := less 2 (by omega) (by omega)
  -- store `c` in the middle slot and drop `k` tokens
  have setc : ∀ k, (k = 3 → f.left ≠ 0) → k ≤ 3 → Sim (phiStep q) KStep
      (tvSet (phiS q f.s) (f.left + 1) (phiTok q c) >>= fun s' => FS.dec { phiF q f with s := s' } k >>= fun x => pure (.cont { x with left := 0 }))
      (tvSet f.s (f.left + 1) c >>= fun s' => FS.dec { f with s := s' } k >>= fun x => pure (.cont { x with left := 0 })) :=
    fun k hl hk => sim_set c rfl h0 (by omega) hqc
      (fun s' hs' => sim_dec { f with s := s' } k (fun x => rfl) (less k hl hk s' hs'))
  refine sim_ite _ (fun _ => sim_dec f 2 (fun x => rfl) (two _ h0)) (fun _ => ?_)
  refine sim_ite _ (fun _ => sim_dec f 2 (fun x => rfl) (two _ h0)) (fun _ => ?_)
  refine sim_ite _ (fun _ => sim_dec f 2 (fun x => rfl) (two _ h0)) (fun _ => ?_)
  refine sim_ite _ (fun _ => sim_dec f 2 (fun x => rfl) (two _ h0)) (fun _ => ?_)
  refine sim_ite _ (fun _ => sim_dec f 2 (fun x => rfl) (two _ h0)) (fun _ => ?_)
  refine sim_any (fun vb => ?_)
  refine sim_ite _ (fun _ => sim_dec f 2 (fun x => rfl) (two _ h0)) (fun _ => ?_)
  refine sim_ite _ (fun _ => sim_dec f 2 (fun x => rfl) (two _ h0)) (fun _ => ?_)
  refine sim_ite _ (fun _ => setc 1 (by omega) (by omega)) (fun _ => ?_)
  refine sim_ite _ (fun _ => setc 1 (by omega) (by omega)) (fun _ => ?_)
  -- `, unary x`: three tokens dropped; the window cannot start at the string
  refine sim_ite _ (fun hc => setc 3 (fun _ => (win (by rintro (h | h) <;> simp [h] at hc)).1) (by omega))
    (fun _ => ?_)
  refine sim_ite _ (fun _ => setc 1 (by omega) (by omega)) (fun _ => ?_)
  refine sim_ite _ (fun _ => sim_dec f 2 (fun x => rfl) (two _ h0)) (fun _ => ?_)
  refine sim_ite _ (fun _ => setc 1 (by omega) (by omega)) (fun _ => ?_)
  refine sim_seq (m := phiF q) (Q := KF) ?_ (fun f' hf' => sim_pure rfl hf')
  refine sim_ite _ (fun hc => ?_) (fun _ => sim_pure rfl ⟨h0, hp1, hq⟩)
  refine sim_any (fun va => ?_)
  refine sim_ite _ (fun _ => ?_) (fun _ => sim_pure rfl ⟨h0, hp1, hq⟩)
  obtain ⟨hl, hpos⟩ := win (by rintro (h | h) <;> simp [h] at hc)
  exact sim_set { a with cat := 110 } (phiTok_withCat q a 110).symm h0 hl (quiet_of_pos hpos)
    (fun s' hs' => sim_pure rfl ⟨hs', hp1, hq⟩)

theorem special5_phi (q : UInt8) (s : State) : special5 (phiS q s) = special5 s := by
  unfold special5
  simp only [tvGet_phi, map_bind, phiTok_cat]

theorem foldSpecial_sim (q : UInt8) (f : FS) (hK : KF f) : Sim (phiF q) KF (foldSpecial (phiF q f)) (foldSpecial f) := by
  obtain ⟨h0, hp1, hq⟩ := hK
  unfold foldSpecial
  simp only [phiF_pos, phiF_s, special5_phi, tvGet_phi]
  refine sim_ite _ (fun _ => ?_) (fun _ => sim_pure rfl ⟨h0, hp1, hq⟩)
  refine sim_any (fun b => ?_)
  refine sim_ite _ (fun _ => ?_) (fun _ => sim_pure rfl ⟨h0, hp1, hq⟩)
  refine sim_ite _ (fun _ => ?_) (fun _ => sim_pure rfl ⟨h0, by show 1 ≤ 1; omega, hq⟩)
  refine sim_bind _ _ (tvGet_post f.s 5) (fun t5 h5 => ?_)
  exact sim_set t5 rfl h0 (by omega) (h0.2.1 5 t5 (by omega) h5)
    (fun s' hs' => sim_pure rfl ⟨hs', by show 1 ≤ 2; omega, hq⟩)

/-! ### tokenize

The as-is reading runs its loops on an input one byte longer, hence with more fuel: the loop lemmas
say that whatever the in-quote loop returns, the as-is loop returns its image with any fuel at least as large. -/

theorem tvSet_pos (s s' : State) (i : Nat) (t : Token) (h : tvSet s i t = .ok s') : s'.pos = s.pos ∧ s'.flags = s.flags := by
  rw [tvSet_eq h]; exact ⟨rfl, rfl⟩

theorem phiTok_shift (q : UInt8) (t : Token) (p : Nat) (hp : 1 ≤ p) :
    ({ t with pos := t.pos + (p + 1) } : Token) = phiTok q { t with pos := t.pos + p } := by
  unfold phiTok
  have e : (t.pos + p == 0) = false := by rw [beq_eq_false_iff_ne]; omega
  simp only [e, Bool.false_eq_true, ↓reduceIte]
  rfl

theorem phiS_adv (q : UInt8) (s1 : State) (n d h k : Nat) :
    ({ phiS q s1 with pos := (phiS q s1).pos + n, ddx := (phiS q s1).ddx + d, hash := (phiS q s1).hash + h, toks := (phiS q s1).toks + k } : State) =
    phiS q { s1 with pos := s1.pos + n, ddx := s1.ddx + d, hash := s1.hash + h, toks := s1.toks + k } := by
  unfold phiS
  simp only [Nat.add_right_comm]

theorem tokLoop_phi (q : UInt8) : ∀ (fuel : Nat) (s : State) (r : Bool × State), 1 ≤ s.pos → tokLoop s fuel = .ok r →
    ∀ fuel', fuel ≤ fuel' → tokLoop (phiS q s) fuel' = .ok (r.1, phiS q r.2) ∧ (s.cur ≠ 0 → Slot0 s → Slot0 r.2)
  | 0, _, _, _, h => by cases h
  | fuel + 1, s, r, hp, h => by
    intro fuel' hle
    obtain ⟨fuel', rfl⟩ : ∃ n, fuel' = n + 1 := ⟨fuel' - 1, by omega⟩
    unfold tokLoop at h ⊢
    simp only [phiS_pos, phiS_input, phiS_flags, phiS_cur, List.length_cons, Nat.add_lt_add_iff_right]
    by_cases hlt : s.pos < s.input.length
    · rw [if_pos hlt] at h ⊢
      have e1 : sliceFrom (q :: s.input) (s.pos + 1) = sliceFrom s.input s.pos := by
        unfold sliceFrom
        simp only [List.length_cons, Nat.add_le_add_iff_right, List.drop_succ_cons]
      obtain ⟨rest, hs, h⟩ := bind_ok h
      obtain ⟨c0, hc, h⟩ := bind_ok h
      obtain ⟨lx, hr, h⟩ := bind_ok h
      obtain ⟨s1, hs1, h⟩ := bind_ok h
      rw [e1, hs, ok_bind, hc, ok_bind, runP_mode _ _ (modeEq_asIs s.flags), hr, ok_bind,
        tvSet_phi q s s.cur _ _ (phiTok_shift q lx.tok s.pos hp), hs1]
      simp only [Except.map, ok_bind] at h ⊢
      have est := phiS_adv q s1 lx.next lx.ddx lx.hash
      have hp1 := (tvSet_pos _ _ _ _ hs1).1
      -- the token just stored lies right of offset 0
      have slot : s.cur ≠ 0 → Slot0 s → s1.cur ≠ 0 ∧
          Slot0 { s1 with pos := s1.pos + lx.next, ddx := s1.ddx + lx.ddx, hash := s1.hash + lx.hash } := fun hcur h0 =>
        have ⟨⟨g1, g2, _⟩, hc1⟩ := tvSet_post s s.cur _ h0 hcur (quiet_of_pos (by show lx.tok.pos + s.pos ≠ 0; omega)) s1 hs1
        ⟨hc1 ▸ hcur, g1, g2, by show 1 ≤ s1.pos + lx.next; omega⟩
      by_cases hcat : (lx.tok.cat != 0) = true
      · simp only [hcat, ↓reduceIte] at h ⊢
        cases h
        refine ⟨?_, fun hcur h0 => (slot hcur h0).2⟩
        show Except.ok (true, _) = Except.ok (true, _)
        rw [← est 1]
      · simp only [hcat, Bool.false_eq_true, ↓reduceIte] at h ⊢
        have h0 := est 0
        simp only [Nat.add_zero] at h0
        have := tokLoop_phi q fuel { s1 with pos := s1.pos + lx.next, ddx := s1.ddx + lx.ddx, hash := s1.hash + lx.hash } r
          (by show 1 ≤ s1.pos + lx.next; omega) h fuel' (by omega)
        rw [← h0] at this
        exact ⟨this.1, fun hcur hs0 => this.2 (slot hcur hs0).1 (slot hcur hs0).2⟩
    · rw [if_neg hlt] at h ⊢
      cases h
      exact ⟨rfl, fun _ h0 => h0⟩

theorem tokenize_phi (q : UInt8) (s : State) (hp : 1 ≤ s.pos) (hinb : s.pos ≤ s.input.length) (r : Bool × State)
    (h : tokenize s = .ok r) : tokenize (phiS q s) = .ok (r.1, phiS q r.2) ∧ (s.cur ≠ 0 → Slot0 s → Slot0 r.2) := by
  unfold tokenize at h ⊢
  have e1 : ((phiS q s).input.length == 0) = false := by
    rw [beq_eq_false_iff_ne]; simp
  have e2 : (s.input.length == 0) = false := by
    rw [beq_eq_false_iff_ne]; omega
  simp only [e1, e2, Bool.false_eq_true, ↓reduceIte, phiS_cur] at h ⊢
  obtain ⟨s1, hs1, h⟩ := bind_ok h
  rw [tvSet_phi q s s.cur {} {} rfl, hs1]
  obtain ⟨hp1, hf1⟩ := tvSet_pos _ _ _ _ hs1
  -- the scanner is past offset 0: no virtual opening quote
  have e3 : (s1.pos == 0) = false := by rw [beq_eq_false_iff_ne]; omega
  simp only [Except.map, ok_bind, phiS_pos, phiS_flags, asIs_noquote, Bool.and_false, Bool.false_eq_true, ↓reduceIte, e3,
    Bool.false_and, phiS_input, List.length_cons] at h ⊢
  have := tokLoop_phi q _ s1 r (by omega) h (s1.input.length + 1 + 1) (by omega)
  refine ⟨this.1, fun hcur h0 => ?_⟩
  have ⟨h1, hc1⟩ := tvSet_post s s.cur {} h0 hcur (fun _ => rfl) s1 hs1
  exact this.2 (hc1 ▸ hcur) h1

/-! ### the loops -/

theorem fetch_phi (q : UInt8) (k : Nat) :
    ∀ (fuel : Nat) (f r : FS), FInv f → KF f → fetch f k fuel = .ok r →
    ∀ fuel', fuel ≤ fuel' → fetch (phiF q f) k fuel' = .ok (phiF q r) ∧ KF r
  | 0, _, _, _, _, h => by cases h
  | fuel + 1, f, r, hf, hK, h => by
    intro fuel' hle
    obtain ⟨fuel', rfl⟩ : ∃ n, fuel' = n + 1 := ⟨fuel' - 1, by omega⟩
    obtain ⟨hs, hlp, hp6, hlc⟩ := hf
    obtain ⟨h0, hp1, hq⟩ := hK
    unfold fetch at h ⊢
    by_cases hc : (f.more && decide (f.pos ≤ maxTokens) && decide (f.pos - f.left < k)) = true
    · have hp5 : f.pos ≤ 5 := by
        simp only [Bool.and_eq_true, decide_eq_true_eq] at hc; exact hc.1.2
      obtain ⟨more, s', hr, hs', hstep⟩ := tokenize_sinv { f.s with cur := f.pos } ⟨hs.1, hs.2.1, hs.2.2⟩ (by show f.pos < 8; omega)
      obtain ⟨q1, q2, q3, q4, q5, q6, q7, q8, q9, q10, q11⟩ := hstep
      simp only at q3 q8
      obtain ⟨etk, hslot⟩ := tokenize_phi q { f.s with cur := f.pos } h0.2.2 hs.2.1 _ hr
      have etk : tokenize { phiS q f.s with cur := f.pos } = .ok (more, phiS q s') := etk
      have h0' : Slot0 s' := hslot (by show f.pos ≠ 0; omega) h0
      rw [if_pos hc] at h
      simp only [hr] at h
      rw [if_pos (show ((phiF q f).more && decide ((phiF q f).pos ≤ maxTokens) &&
        decide ((phiF q f).pos - (phiF q f).left < k)) = true from hc)]
      simp only [phiF_pos, phiF_left, phiF_s]
      rw [etk]
      simp only [ok_bind] at h ⊢
      cases more with
      | false =>
        simp only [Bool.false_eq_true, ↓reduceIte] at h ⊢
        exact fetch_phi q k fuel { f with s := s', more := false } r ⟨hs', hlp, hp6, hlc⟩ ⟨h0', hp1, hq⟩ h fuel' (by omega)
      | true =>
        obtain ⟨hadv, t', ht', htc, ⟨ti, tlo, thi, _, tcat⟩⟩ := q8 rfl
        have hget : tvGet s' s'.cur = .ok t' := tvGet_of_some (by rw [q3]; exact ht')
        simp only [↓reduceIte, phiS_cur, tvGet_phi, hget, Except.map, ok_bind, phiTok_cat] at h ⊢
        by_cases hcm : (t'.cat == 99) = true
        · simp only [hcm, ↓reduceIte] at h ⊢
          exact fetch_phi q k fuel { f with s := s', more := true, lastComment := t' } r ⟨hs', hlp, hp6, ⟨ti, tcat⟩⟩
            ⟨h0', hp1, h0'.2.1 f.pos t' (by omega) ht'⟩ h fuel' (by omega)
        · simp only [hcm, Bool.false_eq_true, ↓reduceIte] at h ⊢
          have := fetch_phi q k fuel
            { f with s := s', more := true, lastComment := { f.lastComment with cat := 0 }, pos := f.pos + 1 } r
            ⟨hs', by simp; omega, by simp; omega,
              hlc.recat 0 ⟨Or.inl rfl, (fun h => absurd h (by decide)), (fun h => absurd h (by decide))⟩⟩
            ⟨h0', by show 1 ≤ f.pos + 1; omega, fun _ => rfl⟩ h fuel' (by omega)
          have e : phiTok q { f.lastComment with cat := 0 } = { phiTok q f.lastComment with cat := 0 } := phiTok_withCat q _ 0
          unfold phiF at this ⊢
          simp only [e] at this
          exact this
    · rw [if_neg hc] at h
      rw [if_neg (show ¬ ((phiF q f).more && decide ((phiF q f).pos ≤ maxTokens) &&
        decide ((phiF q f).pos - (phiF q f).left < k)) = true from hc)]
      cases h
      exact ⟨rfl, h0, hp1, hq⟩

theorem foldBody_sim (q : UInt8) (f : FS) (hf : FInv f) (hK : KF f) :
    Sim (phiStep q) KStep (foldBody (phiF q f)) (foldBody f) := by
  unfold foldBody
  obtain ⟨f1, h1, hf1, _⟩ := foldSpecial_ok' f hf
  obtain ⟨e1, hK1⟩ := sim_ok (foldSpecial_sim q f hK) h1
  rw [e1, h1]
  simp only [ok_bind, phiF_more, phiF_left, phiF_pos, phiF_s, phiS_input, List.length_cons]
  refine sim_ite _ (fun _ => sim_pure rfl ⟨⟨hK1.1, hK1.2.1, hK1.2.2⟩, hK1.2.1⟩) (fun _ => ?_)
  obtain ⟨f2, h2, hf2, _⟩ := fetch_ok' 2 _ f1 hf1 (fetch_fuel_ok f1)
  obtain ⟨e2, hK2⟩ := fetch_phi q 2 _ f1 f2 hf1 hK1 h2 (fetchFuel (f1.s.input.length + 1)) (by unfold fetchFuel; omega)
  rw [e2, h2]
  simp only [ok_bind, phiF_more, phiF_left, phiF_pos, phiF_s]
  refine sim_ite _ (fun _ => sim_pure rfl ⟨hK2.1, hK2.2.1, hK2.2.2⟩) (fun c2 => ?_)
  obtain ⟨r, hr, hrok, _⟩ := foldTwo_ok f2 hf2 (by omega)
  obtain ⟨eT, hKr⟩ := sim_ok (foldTwo_sim q f2 hK2 (by omega)) hr
  rw [eT, hr]
  cases r with
  | done st => exact sim_pure rfl hKr
  | next f3 =>
    have hf3 := hrok.1
    simp only [ok_bind, phiTwo, phiF_s, phiS_input, List.length_cons]
    obtain ⟨f4, h4, hf4, _⟩ := fetch_ok' 3 _ f3 hf3 (fetch_fuel_ok f3)
    obtain ⟨e4, hK4⟩ := fetch_phi q 3 _ f3 f4 hf3 hKr h4 (fetchFuel (f3.s.input.length + 1)) (by unfold fetchFuel; omega)
    rw [e4, h4]
    simp only [ok_bind, phiF_left, phiF_pos]
    refine sim_ite _ (fun _ => sim_pure rfl ⟨hK4.1, hK4.2.1, hK4.2.2⟩) (fun c3 => ?_)
    exact foldThree_sim q f4 hK4 (by omega)

theorem foldLoop_phi (q : UInt8) : ∀ (fuel : Nat) (f : FS) (r : Nat × FS), FInv f → KF f → foldLoop f fuel = .ok r →
    ∀ fuel', fuel ≤ fuel' → foldLoop (phiF q f) fuel' = .ok (r.1, phiF q r.2) ∧ Slot0 r.2.s
  | 0, _, _, _, _, h => by cases h
  | fuel + 1, f, r, hf, hK, h => by
    intro fuel' hle
    obtain ⟨fuel', rfl⟩ : ∃ n, fuel' = n + 1 := ⟨fuel' - 1, by omega⟩
    unfold foldLoop at h ⊢
    obtain ⟨st, hst, hbok⟩ := foldBody_ok f hf
    obtain ⟨eB, hKst⟩ := sim_ok (foldBody_sim q f hf hK) hst
    rw [eB]
    rw [hst] at h
    cases st with
    | cont f' =>
      simp only [ok_bind, phiStep] at h ⊢
      exact foldLoop_phi q fuel f' r hbok.1 hKst h fuel' (by omega)
    | brk f' =>
      simp only [ok_bind, phiStep, phiF_left, phiF_lc, phiTok_cat, phiF_s] at h ⊢
      obtain ⟨⟨h0, hp1, hq⟩, hl1⟩ := hKst
      -- the epilogue stores the last comment right of slot 0
      refine sim_ok (φ := fun p => (p.1, phiF q p.2)) (P := fun p => Slot0 p.2.s) ?_ h
      refine sim_seq (m := phiF q) (Q := fun f'' => Slot0 f''.s) ?_ (fun f'' hf'' => sim_pure rfl hf'')
      refine sim_ite _ (fun _ => ?_) (fun _ => sim_pure rfl h0)
      exact sim_set f'.lastComment rfl h0 (by omega) hq (fun s' hs' => sim_pure rfl hs')
    | ret n f' =>
      cases h
      exact ⟨rfl, hKst⟩

/-! ### the first token, the skip loop, `fold`, the fingerprint -/

theorem sqliInit_flags (x : Bytes) {F : Nat} (h : F ≠ 0) : (sqliInit x F).flags = F := by
  simp [sqliInit, h]

/-- the state of the in-quote reading of `x` after its first token -/
def inqFirst (x : Bytes) (q : UInt8) (F : Nat) : State :=
  { (sqliInit x F) with tv := (((sqliInit x F).tv.set 0 {}).set 0 ((strTok x q 0 0).1)), pos := (strTok x q 0 0).2, toks := 0 + 1 }

theorem tokenize_first_inq (x : Bytes) (hx : x ≠ []) (q : UInt8) (F : Nat)
    (hF : (hasFlag F flagQuoteSingle || hasFlag F flagQuoteDouble) = true) (hd : flag2Delim F = q) :
    tokenize (sqliInit x F) = .ok (true, inqFirst x q F) := by
  unfold inqFirst
  have hxl : 1 ≤ x.length := by cases x with | nil => exact absurd rfl hx | cons _ _ => simp
  have hq92 : q ≠ 92 := by rcases delim_cases hF hd with rfl | rfl <;> decide
  have hfl2 := sqliInit_flags x (quoted_ne_zero hF)
  have spec2 := parseStringCore_strTok x 0 q hq92 (by omega)
  simp only [List.drop_zero, Nat.lt_irrefl, ↓reduceIte, Nat.zero_add] at spec2
  unfold tokenize
  have hlen : ((sqliInit x F).input.length == 0) = false := by simp [sqliInit]; omega
  have hcur : (sqliInit x F).cur < (sqliInit x F).tv.length := by simp [sqliInit]
  have hp0 : ((sqliInit x F).pos == 0) = true := rfl
  simp only [hlen, Bool.false_eq_true, ↓reduceIte, tvSet_ok _ _ _ hcur, bind, Except.bind, pure, Except.pure, hfl2, hF,
    hp0, Bool.and_self, hd]
  have hin : (sqliInit x F).input = x := rfl
  have hc0 : (sqliInit x F).cur = 0 := rfl
  simp only [hin, hc0, spec2]
  rw [tvSet_ok _ _ _ (by simp [sqliInit])]
  rfl

theorem phiTok_first (x : Bytes) (hx : x ≠ []) (q : UInt8) (hq : q = 39 ∨ q = 34) :
    phiTok q (strTok x q 0 0).1 = { (strTok x q 1 q).1 with pos := (strTok x q 1 q).1.pos + 0 } := by
  have hxl : 1 ≤ x.length := by cases x with | nil => exact absurd rfl hx | cons _ _ => simp
  have hq0 : (q != 0) = true := by rcases hq with rfl | rfl <;> decide
  unfold strTok
  cases Spec.closingQuote x q with
  | none =>
    have hc : (clip x.length != 0) = true := by
      have : clip x.length ≠ 0 := by unfold clip; split <;> first | omega | decide
      simpa using this
    unfold phiTok
    simp only [beq_self_eq_true, ↓reduceIte, hc, Bool.or_true]
  | some k =>
    unfold phiTok
    simp only [beq_self_eq_true, ↓reduceIte, hq0, Bool.true_or]

theorem state_eq (A B : State) (h1 : A.input = B.input) (h2 : A.flags = B.flags) (h3 : A.pos = B.pos) (h4 : A.tv = B.tv)
    (h5 : A.cur = B.cur) (h6 : A.fingerprint = B.fingerprint) (h7 : A.ddx = B.ddx) (h8 : A.hash = B.hash)
    (h9 : A.folds = B.folds) (h10 : A.toks = B.toks) : A = B := by
  cases A; cases B; simp_all

/-- as-is reading of `q :: x`: the first byte dispatches to the string lexer, and **after the first token
the as-is state is the image of the in-quote state** -/
theorem tokenize_first_asis (x : Bytes) (hx : x ≠ []) (q : UInt8) (F : Nat)
    (hF : (hasFlag F flagQuoteSingle || hasFlag F flagQuoteDouble) = true) (hd : flag2Delim F = q) :
    tokenize (sqliInit (q :: x) (asIs F)) = .ok (true, phiS q (inqFirst x q F)) := by
  have hq := delim_cases hF hd
  have hq92 : q ≠ 92 := by rcases hq with rfl | rfl <;> decide
  have hdisp : dispatch q = .string := by rcases hq with rfl | rfl <;> decide +kernel
  have hfl1 := sqliInit_flags (q :: x) (asIs_ne_zero F)
  have spec1 := parseStringCore_strTok (q :: x) 1 q hq92 (by simp)
  simp only [List.drop_succ_cons, List.drop_zero, ↓reduceIte, Nat.zero_lt_one] at spec1
  unfold tokenize
  have hlen : ((sqliInit (q :: x) (asIs F)).input.length == 0) = false := by simp [sqliInit]
  have hcur : (sqliInit (q :: x) (asIs F)).cur < (sqliInit (q :: x) (asIs F)).tv.length := by simp [sqliInit]
  simp only [hlen, Bool.false_eq_true, ↓reduceIte, tvSet_ok _ _ _ hcur, bind, Except.bind, hfl1, asIs_noquote,
    Bool.and_false]
  have hin : (sqliInit (q :: x) (asIs F)).input = q :: x := rfl
  have hp0 : (sqliInit (q :: x) (asIs F)).pos = 0 := rfl
  have hc0 : (sqliInit (q :: x) (asIs F)).cur = 0 := rfl
  unfold tokLoop
  simp only [hin, hp0, hc0, List.length_cons, Nat.zero_lt_succ, ↓reduceIte, sliceFrom, Nat.zero_le, List.drop_zero, at',
    List.getElem?_cons_zero, bind, Except.bind, pure, Except.pure, hdisp, runP, parseString, spec1]
  rw [tvSet_ok _ _ _ (by simp [sqliInit])]
  simp only [strTok_cat, show ((115 : UInt8) != 0) = true by decide, ↓reduceIte]
  refine congrArg (fun s => Except.ok (true, s)) (state_eq _ _ rfl ?_ ?_ ?_ rfl rfl rfl rfl rfl rfl)
  · show asIs F = asIs (sqliInit x F).flags
    rw [sqliInit_flags _ (quoted_ne_zero hF)]
  · show 0 + (1 + (strTok x q 1 q).2) = (strTok x q 0 0).2 + 1
    rw [strTok_next x q 1 0 q 0]; omega
  · show ((List.replicate 8 ({} : Token)).set 0 {}).set 0 _ = (((List.replicate 8 ({} : Token)).set 0 {}).set 0 _).map (phiTok q)
    rw [List.map_set, List.map_set, phiTok_first x hx q hq, ← strTok_cat x q 1 q]
    rfl

theorem inqFirst_facts (x : Bytes) (hx : x ≠ []) (q : UInt8) (F : Nat) :
    (inqFirst x q F).cur = 0 ∧ (inqFirst x q F).input = x ∧ 1 ≤ (inqFirst x q F).pos ∧
    (inqFirst x q F).pos ≤ x.length ∧ tvGet (inqFirst x q F) 0 = .ok (strTok x q 0 0).1 :=
  ⟨rfl, rfl, (strTok_bounds x hx q 0 0).1, (strTok_bounds x hx q 0 0).2, rfl⟩

theorem inqFirst_slot0 (x : Bytes) (hx : x ≠ []) (q : UInt8) (F : Nat) : Slot0 (inqFirst x q F) := by
  refine ⟨⟨_, rfl, strTok_cat x q 0 0⟩, fun i t hi h => ?_, (strTok_bounds x hx q 0 0).1⟩
  change (((sqliInit x F).tv.set 0 {}).set 0 (strTok x q 0 0).1)[i]? = some t at h
  rw [List.getElem?_set_ne (Ne.symm hi), List.getElem?_set_ne (Ne.symm hi)] at h
  exact fun _ => init_empty x F i t hi h

/-! ### the raw token stream -/

theorem tokRel_phi (q : UInt8) (t : Token) (h : t.pos ≠ 0) : TokRel (phiTok q t) t := by
  unfold phiTok
  rw [if_neg (by simpa using h)]
  exact ⟨rfl, rfl, rfl, rfl, rfl, rfl, fun _ => rfl⟩

theorem rawLoop_phi (q : UInt8) : ∀ (fuel : Nat) (s : State) (r : List RawTok × State), 1 ≤ s.pos → s.pos ≤ s.input.length →
    s.cur < s.tv.length → rawLoop s fuel = .ok r →
    ∀ fuel', fuel ≤ fuel' → ∃ ts1, rawLoop (phiS q s) fuel' = .ok (ts1, phiS q r.2) ∧ AllRel RawRel ts1 r.1
  | 0, _, _, _, _, _, h => by cases h
  | fuel + 1, s, r, hp, hinb, hcur, h => by
    intro fuel' hle
    obtain ⟨fuel', rfl⟩ : ∃ n, fuel' = n + 1 := ⟨fuel' - 1, by omega⟩
    unfold rawLoop at h ⊢
    obtain ⟨more, s', hs', q1, q2, q3, q4, q5, q6, q7, q8, _⟩ := tokenize_ok s hinb hcur
    rw [hs'] at h
    rw [(tokenize_phi q s hp hinb _ hs').1]
    simp only [ok_bind] at h ⊢
    cases more with
    | false =>
      simp only [Bool.false_eq_true, ↓reduceIte] at h ⊢
      cases h
      exact ⟨[], rfl, AllRel.nil⟩
    | true =>
      simp only [↓reduceIte, phiS_cur, tvGet_phi] at h ⊢
      obtain ⟨t, ht, h⟩ := bind_ok h
      obtain ⟨⟨rest, sf⟩, hrest, h⟩ := bind_ok h
      cases h
      obtain ⟨ts1, e1, hall⟩ := rawLoop_phi q fuel s' (rest, sf) (by omega) (by rw [q1]; exact q6) (by rw [q3, q4]; exact hcur)
        hrest fuel' (by omega)
      -- the token just read lies at or after the scan offset
      obtain ⟨_, t', ht', _, _, hlo, _⟩ := q8 rfl
      have : t' = t := by
        have := tvGet_some ht
        rw [q3, ht'] at this
        exact Option.some.inj this
      subst this
      rw [ht, e1]
      exact ⟨_, rfl, AllRel.cons ⟨tokRel_phi q t' (by omega), rfl⟩ hall⟩

/-- **C12, token half of the quote shift**: the raw token stream of `q :: x` read as-is and of `x` read
inside the quote `q` have the same length and are pairwise equal up to the offset shift (the first pair
differs only in the opening-quote mark) -/
theorem raw_tokens_quote_shift (x : Bytes) (hx : x ≠ []) (q : UInt8) (F : Nat)
    (hF : (hasFlag F flagQuoteSingle || hasFlag F flagQuoteDouble) = true) (hd : flag2Delim F = q) :
    ∃ ts1 sf1 ts2 sf2, rawTokens (q :: x) (asIs F) = .ok (ts1, sf1) ∧ rawTokens x F = .ok (ts2, sf2) ∧
      AllRel RawRel ts1 ts2 := by
  have t2 := tokenize_first_inq x hx q F hF hd
  have t1 := tokenize_first_asis x hx q F hF hd
  obtain ⟨hcur, hin, hpos, hinb, hget⟩ := inqFirst_facts x hx q F
  have hfirst : TokRel (phiTok q (strTok x q 0 0).1) (strTok x q 0 0).1 := by
    rw [phiTok_first x hx q (delim_cases hF hd)]
    exact strTok_rel x q q 0
  have htv : (inqFirst x q F).cur < (inqFirst x q F).tv.length := by simp [inqFirst, sqliInit]
  generalize inqFirst x q F = A at t1 t2 hcur hin hpos hinb hget htv
  obtain ⟨ts2, sf2, h2, _⟩ := rawTokens_faithful x F
  have h2' := h2
  unfold rawTokens rawFuel rawLoop at h2'
  rw [t2] at h2'
  simp only [ok_bind, ↓reduceIte, hcur, hget] at h2'
  obtain ⟨⟨rest, sf⟩, hrest, h2'⟩ := bind_ok h2'
  cases h2'
  obtain ⟨ts1, e1, hall⟩ := rawLoop_phi q _ A _ hpos (by rw [hin]; exact hinb) htv hrest ((q :: x).length + 1) (by simp)
  refine ⟨{ tok := phiTok q (strTok x q 0 0).1, before := 0, after := A.pos + 1 } :: ts1, phiS q sf, _, _, ?_, h2,
    AllRel.cons ⟨hfirst, rfl⟩ hall⟩
  unfold rawTokens rawFuel rawLoop
  rw [t1]
  simp only [ok_bind, ↓reduceIte, phiS_cur, hcur, tvGet_phi, hget, Except.map, e1]
  rfl

theorem skipLoop_first (s A : State) (T : Token) (fuel : Nat) (ht : tokenize s = .ok (true, A))
    (hg : tvGet A A.cur = .ok T) (hc : T.cat = 115) : skipLoop s (fuel + 1) = .ok (true, A) := by
  unfold skipLoop
  rw [ht]
  simp only [ok_bind, Bool.not_true, Bool.false_eq_true, ↓reduceIte, hg]
  unfold Token.isUnaryOp
  simp [hc, orM, toBool, g, bind, Except.bind, pure, Except.pure]

theorem fold_quote (x : Bytes) (hx : x ≠ []) (q : UInt8) (F : Nat)
    (hF : (hasFlag F flagQuoteSingle || hasFlag F flagQuoteDouble) = true) (hd : flag2Delim F = q) :
    ∃ n s, fold (sqliInit x F) = .ok (n, s) ∧ fold (sqliInit (q :: x) (asIs F)) = .ok (n, phiS q s) ∧ Slot0 s := by
  have t2 := tokenize_first_inq x hx q F hF hd
  have t1 := tokenize_first_asis x hx q F hF hd
  obtain ⟨hcur, hin, hpos, _, hget⟩ := inqFirst_facts x hx q F
  have hslot := inqFirst_slot0 x hx q F
  generalize inqFirst x q F = A at t1 t2 hcur hin hpos hget hslot
  have hsA : SInv A := by
    obtain ⟨more', s', hr', hs', _⟩ := tokenize_sinv (sqliInit x F) (sinv_init x F) (by show 0 < 8; omega)
    rw [t2] at hr'
    cases hr'
    exact hs'
  have sk2 : skipLoop (sqliInit x F) ((sqliInit x F).input.length + 1 + 1) = .ok (true, A) :=
    skipLoop_first _ A _ _ t2 (by rw [hcur]; exact hget) (strTok_cat x q 0 0)
  have sk1 : skipLoop (sqliInit (q :: x) (asIs F)) ((sqliInit (q :: x) (asIs F)).input.length + 1 + 1) = .ok (true, phiS q A) :=
    skipLoop_first _ (phiS q A) (phiTok q (strTok x q 0 0).1) _ t1
      (by rw [phiS_cur, hcur, tvGet_phi, hget]; rfl) (by rw [phiTok_cat]; exact strTok_cat x q 0 0)
  -- the main loop
  have hf0 : FInv { s := A, pos := 1, left := 0, more := true, lastComment := {} } :=
    ⟨hsA, Nat.zero_le _, by show 1 ≤ 6; omega, tokF_default⟩
  -- the in-quote reading is total: this is its main loop
  obtain ⟨_, _, e2, _⟩ := fold_ok (sqliInit x F) (sinv_init x F) (init_empty x F)
  have h2 := e2
  unfold fold at h2
  change (skipLoop (sqliInit x F) ((sqliInit x F).input.length + 1 + 1) >>= _) = _ at h2
  rw [sk2] at h2
  simp only [ok_bind, Bool.not_true, Bool.false_eq_true, ↓reduceIte] at h2
  obtain ⟨⟨n, f'⟩, hloop, e⟩ := bind_ok h2
  cases e
  obtain ⟨hl, hs'⟩ := foldLoop_phi q _ _ _ hf0 ⟨hslot, Nat.le_refl _, fun _ => rfl⟩ hloop (foldFuel (A.input.length + 1))
    (by unfold foldFuel; omega)
  refine ⟨n, f'.s, e2, ?_, hs'⟩
  unfold fold
  show (skipLoop (sqliInit (q :: x) (asIs F)) ((sqliInit (q :: x) (asIs F)).input.length + 1 + 1) >>= _) = _
  rw [sk1]
  simp only [ok_bind, Bool.not_true, Bool.false_eq_true, ↓reduceIte, phiS_input, List.length_cons]
  rw [show foldLoop { s := phiS q A, pos := 1, left := 0, more := true, lastComment := {} } _ = _ from hl]
  rfl

theorem phiTok_recatCond (q : UInt8) (t : Token) :
    ((phiTok q t).cat == 110 && (phiTok q t).strOpen == 96 && (phiTok q t).len == 0 && (phiTok q t).strClose == 0) =
    (t.cat == 110 && t.strOpen == 96 && t.len == 0 && t.strClose == 0) := by
  simp only [phiTok_cat, phiTok_len, phiTok_strClose]
  by_cases hl : (t.len == 0) = true
  · by_cases hc : (t.strClose == 0) = true
    · have hl0 : t.len = 0 := by simpa using hl
      have hc0 : t.strClose = 0 := by simpa using hc
      have : (phiTok q t).strOpen = t.strOpen := by
        unfold phiTok
        simp only [hl0, hc0, bne_self_eq_false, Bool.or_self, Bool.false_eq_true, ↓reduceIte]
        split <;> rfl
      rw [this]
    · simp only [hc, Bool.and_false]
  · simp only [hl, Bool.and_false, Bool.false_and]

theorem recatLast_sim (q : UInt8) (s : State) (n : Nat) (h0 : Slot0 s) :
    Sim (phiS q) Slot0 (recatLast (phiS q s) n) (recatLast s n) := by
  unfold recatLast
  simp only [tvGet_phi]
  refine sim_ite _ (fun hn => ?_) (fun _ => sim_pure rfl h0)
  refine sim_bind _ _ (tvGet_post s (n - 1)) (fun t ht => ?_)
  simp only [phiTok_recatCond]
  refine sim_ite _ (fun hc => ?_) (fun _ => sim_pure rfl h0)
  have hpos : t.pos ≠ 0 := fun hp => by
    have := h0.2.1 (n - 1) t (by omega) ht hp
    simp [this] at hc
  exact ⟨tvSet_phi q s _ _ { t with cat := 99 } (phiTok_withCat q t 99).symm,
    fun s' hs' => (tvSet_post s (n - 1) _ h0 (by omega) (quiet_of_pos (t := { t with cat := 99 }) hpos) s' hs').1⟩

theorem buildFp_phi (q : UInt8) (s : State) (n : Nat) : ∀ (fuel i : Nat) (acc : Bytes),
    buildFp (phiS q s) n i acc fuel = buildFp s n i acc fuel
  | 0, _, _ => rfl
  | fuel + 1, i, acc => by
    unfold buildFp
    simp only [tvGet_phi, map_bind, phiTok_cat, buildFp_phi q s n fuel]

/-- **C12, quote shift: the final state of the as-is reading of `q :: x` is the image of that of the
in-quote reading of `x`** (in particular the two have the same fingerprint), **which is `X` or keeps its
string token in slot 0** -/
theorem fingerprint_sim (x : Bytes) (hx : x ≠ []) (q : UInt8) (F : Nat)
    (hF : (hasFlag F flagQuoteSingle || hasFlag F flagQuoteDouble) = true) (hd : flag2Delim F = q) :
    Sim (phiS q) (fun st => st.fingerprint = [88] ∨ Slot0 st) (fingerprint (q :: x) (asIs F)) (fingerprint x F) := by
  obtain ⟨n, s1, e2, e1, hs1⟩ := fold_quote x hx q F hF hd
  unfold fingerprint
  dsimp only []
  rw [e1, e2]
  simp only [ok_bind]
  refine sim_seq (recatLast_sim q s1 n hs1) (fun s2 hs2 => ?_)
  simp only [buildFp_phi]
  refine sim_any (fun o => ?_)
  cases o with
  | some fp => exact sim_pure rfl (Or.inr hs2)
  | none =>
    simp only [tvGet_phi]
    refine sim_bind (fun _ => True) _ (fun _ _ => trivial) (fun t0 _ => ?_)
    refine ⟨?_, post_any _ _ _ (fun s3 => post_pure _ _ (Or.inl rfl))⟩
    have e : ({ phiTok q t0 with cat := 88, val := [88] } : Token) = phiTok q { t0 with cat := 88, val := [88] } := by
      unfold phiTok
      simp only []
      split <;> (try split) <;> rfl
    rw [tvSet_phi q s2 0 _ _ e]
    exact bmG2 _ _ _ _ _ (fun s' => rfl)

/-! ### the verdict -/

theorem contains_quote (q : UInt8) (hq : q = 39 ∨ q = 34) (x : Bytes) :
    contains (q :: x) spPassword = contains x spPassword := by
  rw [contains_cons]
  have hsp : spPassword = 115 :: spPassword.tail := by decide +kernel
  have : isPrefix spPassword (q :: x) = false := by
    rw [hsp]
    show ((115 : UInt8) == q && isPrefix spPassword.tail x) = false
    have : ((115 : UInt8) == q) = false := by rcases hq with rfl | rfl <;> decide
    rw [this]; rfl
  rw [this, Bool.false_or]

theorem wlInto_phi (q : UInt8) (t : Token) : wlInto (phiTok q t) = wlInto t := by
  unfold wlInto
  simp only [phiTok_cat, phiTok_len, phiTok_val]

/-- the two-class whitelist, when the first token is not a number: the `1c` rule, which reads the
input at the first token's offset, is not reached -/
theorem wlTwo_phi (q : UInt8) (s : State) (fp : Bytes) (h1c : ∀ t0, tvGet s 0 = .ok t0 → t0.cat ≠ 49) :
    wlTwo (phiS q s) fp = wlTwo s fp := by
  unfold wlTwo
  simp only [tvGet_phi, phiS_toks, map_bind, phiTok_cat, phiTok_val, phiTok_len]
  cases h0 : tvGet s 0 with
  | error e => rfl
  | ok t0 =>
    have hc : (t0.cat == 49) = false := beq_eq_false_iff_ne.mpr (h1c t0 h0)
    simp only [ok_bind, hc, Bool.false_and, Bool.false_eq_true, ↓reduceIte]

/-- the three-class whitelist outside `sos` / `s&s` (whose rule looks at the opening-quote mark) -/
theorem wlThree_phi (q : UInt8) (s : State) (fp : Bytes) (hs : (fp == bs "sos" || fp == bs "s&s") = false) :
    wlThree (phiS q s) fp = wlThree s fp := by
  unfold wlThree
  simp only [tvGet_phi, phiS_toks, hs, Bool.false_eq_true, ↓reduceIte, map_bind, wlInto_phi]

theorem checkFingerprint_phi (q : UInt8) (hq : q = 39 ∨ q = 34) (s : State)
    (hs : (s.fingerprint == bs "sos" || s.fingerprint == bs "s&s") = false)
    (h1c : s.fingerprint.length = 2 → ∀ t0, tvGet s 0 = .ok t0 → t0.cat ≠ 49) :
    checkFingerprint (phiS q s) = checkFingerprint s := by
  unfold checkFingerprint
  show (if blacklist s = true then notWhitelist (phiS q s) else _) = _
  refine ite_congr rfl (fun _ => ?_) (fun _ => rfl)
  unfold notWhitelist
  have e2 : (phiS q s).fingerprint = s.fingerprint := rfl
  simp only [e2, phiS_input, contains_quote q hq, wlThree_phi q s _ hs]
  by_cases h2 : (s.fingerprint.length == 2) = true
  · simp only [h2, ↓reduceIte, wlTwo_phi q s _ (h1c (by simpa using h2))]
  · simp only [h2, Bool.false_eq_true, ↓reduceIte]

/-- **C12, quote shift, verdicts**: for flags `F` with a quote bit, the reading of `x` under `F` and the as-is
reading of `quote :: x` have the same fingerprint and the same MySQL re-parse flag, and the same verdict unless
the fingerprint is `sos` or `s&s` (whose whitelist rule looks at the opening-quote mark). The `1c` rule, which
reads the input at the first token's offset, is not reached: slot 0 holds the string token. -/
theorem pass_quote (x : Bytes) (hx : x ≠ []) (q : UInt8) (F : Nat)
    (hF : (hasFlag F flagQuoteSingle || hasFlag F flagQuoteDouble) = true) (hd : flag2Delim F = q)
    (a b : Bool × Bytes × Bool) (ha : pass (q :: x) (asIs F) = .ok a) (hb : pass x F = .ok b) :
    a.2.1 = b.2.1 ∧ a.2.2 = b.2.2 ∧ (b.2.1 ≠ bs "sos" → b.2.1 ≠ bs "s&s" → a.1 = b.1) := by
  unfold pass at ha hb
  obtain ⟨st, hst, hb⟩ := bind_ok hb
  obtain ⟨est, hslot⟩ := sim_ok (fingerprint_sim x hx q F hF hd) hst
  rw [est, ok_bind] at ha
  obtain ⟨v2, hc2, hb⟩ := bind_ok hb
  obtain ⟨v1, hc1, ha⟩ := bind_ok ha
  cases ha
  cases hb
  refine ⟨rfl, rfl, fun n1 n2 => ?_⟩
  have hs : (st.fingerprint == bs "sos" || st.fingerprint == bs "s&s") = false := by
    rw [Bool.or_eq_false_iff]
    exact ⟨by simpa using n1, by simpa using n2⟩
  have h1c : st.fingerprint.length = 2 → ∀ t0, tvGet st 0 = .ok t0 → t0.cat ≠ 49 := by
    intro hlen t0 g0
    rcases hslot with hX | ⟨⟨t, ht, h115⟩, _⟩
    · rw [hX] at hlen; cases hlen
    · rw [tvGet_some g0] at ht
      cases ht
      rw [h115]; decide
  rw [checkFingerprint_phi q (delim_cases hF hd) st hs h1c, hc2] at hc1
  exact (Except.ok.inj hc1).symm

end LibInj.Sqli
