import LibInj.Proofs.FoldOK
import LibInj.Sqli.Check
/-! `sqliFingerprint` never errs and keeps the scanner invariant: `recatLast`, `buildFp`, `fingerprint_ok` (C01, C08). -/
namespace LibInj.Sqli
open LibInj

theorem sinv_init (input : Bytes) (flags : Nat) : SInv (sqliInit input flags) := by
  refine ⟨by simp [sqliInit], Nat.zero_le _, ?_⟩
  intro t ht
  simp only [sqliInit, List.mem_replicate] at ht
  rw [ht.2]; exact tokF_default

theorem init_empty (input : Bytes) (flags : Nat) :
    ∀ j t, j ≠ 0 → (sqliInit input flags).tv[j]? = some t → t.cat = 0 := by
  intro j t _ h
  have : t ∈ (sqliInit input flags).tv := List.mem_of_getElem? h
  simp only [sqliInit, List.mem_replicate] at this
  rw [this.2]

/-- weak invariant that survives the empty-backtick re-categorisation at the end of `fingerprint` -/
def SInvW (s : State) : Prop := s.tv.length = 8 ∧ ∀ t ∈ s.tv, TokInv t ∧ (t.cat = 0 ∨ isClassU8 t.cat = true)

theorem SInv.weak {s : State} (h : SInv s) : SInvW s := ⟨h.1, fun t ht => ⟨(h.2.2 t ht).1, (h.2.2 t ht).2.1⟩⟩

theorem tvGetW (s : State) (hs : SInvW s) (i : Nat) (hi : i < 8) : ∃ t, tvGet s i = .ok t ∧ TokInv t ∧ s.tv[i]? = some t := by
  have hlt : i < s.tv.length := by rw [hs.1]; exact hi
  have hget := List.getElem?_eq_getElem hlt
  exact ⟨_, tvGet_of_some hget, (hs.2 _ (List.getElem_mem hlt)).1, hget⟩

theorem buildFp_ok (s : State) (hs : SInvW s) (length : Nat) (hl : length ≤ 8) :
    ∀ (fuel i : Nat) (acc : Bytes), length ≤ i + fuel →
      (buildFp s length i acc fuel = .ok none ∧ ∃ t ∈ s.tv, t.cat = 88) ∨
      buildFp s length i acc fuel = .ok (some (acc ++ ((s.tv.drop i).take (length - i)).map (·.cat))) := by
  intro fuel
  induction fuel with
  | zero =>
    intro i acc h
    right
    have : length - i = 0 := by omega
    simp [buildFp, this]
  | succ fuel ih =>
    intro i acc h
    unfold buildFp
    by_cases hi : i < length
    · obtain ⟨t, ht, _, hget⟩ := tvGetW s hs i (by omega)
      simp only [hi, ↓reduceIte, ht, bind, Except.bind, pure, Except.pure]
      by_cases hx : (t.cat == 88) = true
      · simp only [hx, ↓reduceIte]; exact Or.inl ⟨trivial, t, List.mem_of_getElem? hget, beq_iff_eq.mp hx⟩
      · simp only [hx, Bool.false_eq_true, ↓reduceIte]
        rcases ih (i + 1) (acc ++ [t.cat]) (by omega) with h1 | h1
        · exact Or.inl h1
        · right
          rw [h1]
          have hlt : i < s.tv.length := by rw [hs.1]; omega
          have hd : s.tv.drop i = t :: s.tv.drop (i + 1) := by
            rw [List.drop_eq_getElem_cons hlt]
            congr 1
            rw [List.getElem?_eq_getElem hlt] at hget
            exact Option.some.inj hget
          have hk : length - i = (length - (i + 1)) + 1 := by omega
          rw [hd, hk, List.take_succ_cons, List.map_cons, List.append_assoc]
          rfl
    · simp only [hi, ↓reduceIte, pure, Except.pure]
      right
      have : length - i = 0 := by omega
      simp [this]

/-- what the blacklist / whitelist stage may rely on -/
def FpInv (input : Bytes) (st : State) : Prop :=
  st.input = input ∧
  (st.fingerprint = [88] ∨
    (SInvW st ∧ ∃ n, n ≤ 7 ∧ st.fingerprint = (st.tv.take n).map (·.cat) ∧ (n ≤ 2 → SInv st ∧ (n ≠ 0 → XFin st))))

theorem tvSetW (s : State) (hs : SInvW s) (i : Nat) (hi : i < 8) (t : Token) (ht : TokInv t ∧ (t.cat = 0 ∨ isClassU8 t.cat = true)) :
    ∃ s', tvSet s i t = .ok s' ∧ SInvW s' ∧ s'.input = s.input ∧ s'.tv = s.tv.set i t := by
  have hlt : i < s.tv.length := by rw [hs.1]; exact hi
  rw [tvSet_ok s i t hlt]
  refine ⟨_, rfl, ⟨by simp; exact hs.1, ?_⟩, rfl, rfl⟩
  intro x hx
  rcases List.mem_or_eq_of_mem_set hx with h | h
  · exact hs.2 x h
  · rw [h]; exact ht

theorem fingerprint_ok (input : Bytes) (flags : Nat) :
    ∃ st, fingerprint input flags = .ok st ∧ FpInv input st := by
  unfold fingerprint
  obtain ⟨n, s1, h1, hs1, hi1, hn, hxf⟩ := fold_ok (sqliInit input flags) (sinv_init input flags) (init_empty input flags)
  have hin : s1.input = input := by rw [hi1]; rfl
  simp only [h1, bind, Except.bind, pure, Except.pure]
  -- the empty-backtick re-categorisation
  have hstep : ∃ s2, recatLast s1 n = .ok s2 ∧ SInvW s2 ∧ s2.input = input ∧ (n ≤ 2 → s2 = s1) := by
    unfold recatLast
    by_cases hn2 : n > 2
    · rw [if_pos hn2]
      obtain ⟨t, ht, hti, _⟩ := tvGetW s1 hs1.weak (n - 1) (by omega)
      simp only [ht, bind, Except.bind, pure, Except.pure]
      by_cases hc : (t.cat == 110 && t.strOpen == 96 && t.len == 0 && t.strClose == 0) = true
      · rw [if_pos hc]
        obtain ⟨s2, h2, hs2, hi2, _⟩ := tvSetW s1 hs1.weak (n - 1) (by omega) { t with cat := 99 } ⟨hti, Or.inr (show isClassU8 99 = true by decide)⟩
        exact ⟨s2, h2, hs2, by rw [hi2]; exact hin, fun h => by omega⟩
      · rw [if_neg hc]
        exact ⟨s1, rfl, hs1.weak, hin, fun _ => rfl⟩
    · rw [if_neg hn2]
      exact ⟨s1, rfl, hs1.weak, hin, fun _ => rfl⟩
  obtain ⟨s2, h2, hs2, hi2, hsame⟩ := hstep
  rw [h2]
  simp only []
  rcases buildFp_ok s2 hs2 n (by omega) 8 0 [] (by omega) with ⟨hb, _⟩ | hb
  · simp only [hb]
    obtain ⟨t0, ht0, hti0, _⟩ := tvGetW s2 hs2 0 (by omega)
    simp only [ht0]
    have hlt : 0 < s2.tv.length := by rw [hs2.1]; omega
    simp only [tvSet_ok s2 0 _ hlt]
    exact ⟨_, rfl, hi2, Or.inl rfl⟩
  · simp only [hb]
    refine ⟨_, rfl, hi2, Or.inr ⟨⟨hs2.1, hs2.2⟩, n, hn, ?_, ?_⟩⟩
    · simp
    · intro h; rw [hsame h]; exact ⟨⟨hs1.1, hs1.2.1, hs1.2.2⟩, fun h0 => hxf h0⟩

end LibInj.Sqli
