import LibInj.Bytes
import LibInj.Gen.Keywords
import Std.Data.HashMap
import LibInj.Sqli.KwTree
/-! Keyword / fingerprint look-up (`searchKeyword` in sqli_helpers.go) over the regenerated table.

The specification is a linear search of the sorted list `Gen.keywords` (`lookupKw`, `searchKeywordSpec`). What
`searchKeyword` runs, compiled and in the kernel alike, is a search of the balanced trees `Gen.kwTrees`
(`lookupKwT`), proved equal to the linear search for the regenerated table (`lookupKwT_eq`, `searchKeyword_eq`).
`lookupKw` itself compiles to a hash map through the kernel-checked `@[csimp]` lemma `lookupKw_eq_fast`
(no `implemented_by`); no caller evaluates it. -/
namespace LibInj.Sqli

def keyNat (w : Bytes) : Nat := w.foldl (fun a c => a * 256 + c.toNat) 0

/-- linear look-up by (length, base-256 key) -/
def lookupIn : List (Nat × Nat × Nat) → Nat → Nat → Option Nat
  | [], _, _ => none
  | (l', n', v) :: t, l, n => if Nat.beq l l' && Nat.beq n n' then some v else lookupIn t l n

def lookupKw (l n : Nat) : Option Nat := lookupIn Gen.keywords l n

def kwMap : Std.HashMap (Nat × Nat) Nat :=
  Std.HashMap.ofList (Gen.keywords.map fun e => ((e.1, e.2.1), e.2.2))

def lookupKwFast (l n : Nat) : Option Nat := kwMap[(l, n)]?

/-- strictly increasing in (length, key): implies pairwise distinct keys -/
def strictSorted : List (Nat × Nat × Nat) → Bool
  | a :: b :: t => (Nat.blt a.1 b.1 || (Nat.beq a.1 b.1 && Nat.blt a.2.1 b.2.1)) && strictSorted (b :: t)
  | _ => true

def keyLt (a b : Nat × Nat × Nat) : Prop := a.1 < b.1 ∨ (a.1 = b.1 ∧ a.2.1 < b.2.1)

theorem keyLt_trans {a b c : Nat × Nat × Nat} (h1 : keyLt a b) (h2 : keyLt b c) : keyLt a c := by
  unfold keyLt at *; omega

theorem keyLtB_iff (x y a b v w : Nat) :
    (Nat.blt x a || (Nat.beq x a && Nat.blt y b)) = true ↔ keyLt (x, y, w) (a, b, v) := by
  simp only [keyLt, Bool.or_eq_true, Bool.and_eq_true, Nat.blt_eq]
  exact or_congr_right (and_congr_left fun _ => ⟨Nat.eq_of_beq_eq_true, fun e => e ▸ Nat.beq_refl x⟩)

theorem strictSorted_cons {a b : Nat × Nat × Nat} {t} (h : strictSorted (a :: b :: t) = true) :
    keyLt a b ∧ strictSorted (b :: t) = true := by
  simp only [strictSorted, Bool.and_eq_true] at h
  exact ⟨(keyLtB_iff a.1 a.2.1 b.1 b.2.1 b.2.2 a.2.2).mp h.1, h.2⟩

theorem strictSorted_head_lt : ∀ (l : List (Nat × Nat × Nat)) (a : Nat × Nat × Nat),
    strictSorted (a :: l) = true → ∀ x ∈ l, keyLt a x
  | [], _, _, x, hx => by cases hx
  | b :: t, a, h, x, hx => by
    obtain ⟨hab, ht⟩ := strictSorted_cons h
    rcases List.mem_cons.mp hx with rfl | hx
    · exact hab
    · exact keyLt_trans hab (strictSorted_head_lt t b ht x hx)

theorem strictSorted_tail : ∀ (l : List (Nat × Nat × Nat)) (a : Nat × Nat × Nat),
    strictSorted (a :: l) = true → strictSorted l = true
  | [], _, _ => rfl
  | _ :: _, _, h => (strictSorted_cons h).2

theorem pairwise_of_strictSorted : ∀ (l : List (Nat × Nat × Nat)), strictSorted l = true →
    (l.map fun e => ((e.1, e.2.1), e.2.2)).Pairwise (fun a b => (a.1 == b.1) = false)
  | [], _ => List.Pairwise.nil
  | a :: t, h => by
    simp only [List.map_cons, List.pairwise_cons]
    refine ⟨?_, pairwise_of_strictSorted t (strictSorted_tail t a h)⟩
    intro p hp
    obtain ⟨x, hx, rfl⟩ := List.mem_map.mp hp
    have := strictSorted_head_lt t a h x hx
    simp only [beq_eq_false_iff_ne, ne_eq, Prod.mk.injEq, not_and]
    unfold keyLt at this
    omega

theorem lookupIn_some_mem : ∀ (t : List (Nat × Nat × Nat)) (l n v : Nat),
    lookupIn t l n = some v → (l, n, v) ∈ t
  | [], _, _, _, h => by simp [lookupIn] at h
  | (l', n', v') :: t, l, n, v, h => by
    simp only [lookupIn] at h
    split at h
    · rename_i hc
      simp only [Bool.and_eq_true] at hc
      cases h
      rw [Nat.eq_of_beq_eq_true hc.1, Nat.eq_of_beq_eq_true hc.2]
      exact List.mem_cons_self
    · exact List.mem_cons_of_mem _ (lookupIn_some_mem t l n v h)

theorem lookupIn_none_not_mem : ∀ (t : List (Nat × Nat × Nat)) (l n : Nat),
    lookupIn t l n = none → ((t.map fun e => ((e.1, e.2.1), e.2.2)).map Prod.fst).contains (l, n) = false
  | [], _, _, _ => by simp
  | (l', n', v') :: t, l, n, h => by
    simp only [lookupIn] at h
    split at h
    · cases h
    · rename_i hc
      have ih := lookupIn_none_not_mem t l n h
      simp only [List.map_cons, List.contains_cons, Bool.or_eq_false_iff]
      refine ⟨?_, ih⟩
      simp only [Bool.and_eq_true, not_and] at hc
      simp only [beq_eq_false_iff_ne, ne_eq, Prod.mk.injEq, not_and]
      intro h1 h2
      subst h1; subst h2
      exact hc (Nat.beq_refl _) (Nat.beq_refl _)

/-- table fact, re-checked by the kernel against the regenerated table on every build -/
theorem keywords_strictSorted : strictSorted Gen.keywords = true := by decide +kernel

theorem lookupKw_eq_fast_apply (l n : Nat) : lookupKw l n = lookupKwFast l n := by
  unfold lookupKw lookupKwFast kwMap
  have hd := pairwise_of_strictSorted Gen.keywords keywords_strictSorted
  cases h : lookupIn Gen.keywords l n with
  | none =>
    exact (Std.HashMap.getElem?_ofList_of_contains_eq_false (lookupIn_none_not_mem _ _ _ h)).symm
  | some v =>
    have hm := lookupIn_some_mem _ _ _ _ h
    have hm' : ((l, n), v) ∈ Gen.keywords.map fun e => ((e.1, e.2.1), e.2.2) :=
      List.mem_map.mpr ⟨(l, n, v), hm, rfl⟩
    exact (Std.HashMap.getElem?_ofList_of_mem (k := (l, n)) (by simp) hd hm').symm

@[csimp] theorem lookupKw_eq_fast : @lookupKw = @lookupKwFast := by
  funext l n; exact lookupKw_eq_fast_apply l n

/-! ### tree search = linear search -/

theorem lookupIn_append (xs ys : List (Nat × Nat × Nat)) (l n : Nat) :
    lookupIn (xs ++ ys) l n = (match lookupIn xs l n with | some v => some v | none => lookupIn ys l n) := by
  induction xs with
  | nil => rfl
  | cons x xs ih =>
    obtain ⟨l', n', v⟩ := x
    simp only [List.cons_append, lookupIn]
    split
    · rfl
    · exact ih

theorem strictSorted_append_left : ∀ (xs ys : List (Nat × Nat × Nat)), strictSorted (xs ++ ys) = true → strictSorted xs = true
  | [], _, _ => rfl
  | [_], _, _ => rfl
  | a :: b :: t, ys, h => by
    have h' : strictSorted (a :: b :: (t ++ ys)) = true := h
    obtain ⟨hab, ht⟩ := strictSorted_cons h'
    have ih := strictSorted_append_left (b :: t) ys ht
    simp only [strictSorted, Bool.and_eq_true, Bool.or_eq_true, Nat.blt_eq]
    simp only [strictSorted, Bool.and_eq_true, Bool.or_eq_true, Nat.blt_eq] at h'
    exact ⟨h'.1, ih⟩

theorem strictSorted_append_right : ∀ (xs ys : List (Nat × Nat × Nat)), strictSorted (xs ++ ys) = true → strictSorted ys = true
  | [], _, h => h
  | a :: t, ys, h => strictSorted_append_right t ys (strictSorted_tail (t ++ ys) a h)

theorem strictSorted_append_lt : ∀ (xs ys : List (Nat × Nat × Nat)), strictSorted (xs ++ ys) = true →
    ∀ x ∈ xs, ∀ y ∈ ys, keyLt x y
  | [], _, _, _, hx, _, _ => by cases hx
  | a :: t, ys, h, x, hx, y, hy => by
    rcases List.mem_cons.mp hx with rfl | hx
    · exact strictSorted_head_lt (t ++ ys) _ h y (List.mem_append_right _ hy)
    · exact strictSorted_append_lt t ys (strictSorted_tail (t ++ ys) a h) x hx y hy

theorem beq_key_false {l n l' n' : Nat} (h : ¬ (l = l' ∧ n = n')) : (Nat.beq l l' && Nat.beq n n') = false :=
  Bool.eq_false_iff.mpr fun hb => by
    rw [Bool.and_eq_true] at hb
    exact h ⟨Nat.eq_of_beq_eq_true hb.1, Nat.eq_of_beq_eq_true hb.2⟩

theorem lookupIn_none (t : List (Nat × Nat × Nat)) (l n : Nat) (h : ∀ e ∈ t, ¬ (e.1 = l ∧ e.2.1 = n)) :
    lookupIn t l n = none := by
  induction t with
  | nil => rfl
  | cons e t ih =>
    obtain ⟨l', n', v⟩ := e
    have he := h (l', n', v) List.mem_cons_self
    simp only [lookupIn, beq_key_false fun e => he ⟨e.1.symm, e.2.symm⟩, Bool.false_eq_true, ↓reduceIte]
    exact ih fun e he => h e (List.mem_cons_of_mem _ he)

theorem KwTree.lookup_eq : ∀ (t : KwTree) (x y : Nat), strictSorted t.toList = true → t.lookup x y = lookupIn t.toList x y
  | .leaf, _, _, _ => rfl
  | .node l a b v r, x, y, hs => by
    have hs' : strictSorted (l.toList ++ (a, b, v) :: r.toList) = true := hs
    have hr0 := strictSorted_append_right _ _ hs'
    have below : ∀ e ∈ l.toList, keyLt e (a, b, v) := fun e he => strictSorted_append_lt _ _ hs' e he _ List.mem_cons_self
    have above : ∀ e ∈ r.toList, keyLt (a, b, v) e := strictSorted_head_lt _ _ hr0
    simp only [KwTree.lookup, KwTree.toList]
    rw [lookupIn_append, KwTree.lookup_eq l x y (strictSorted_append_left _ _ hs'),
      KwTree.lookup_eq r x y (strictSorted_tail _ _ hr0)]
    by_cases hlt : keyLt (x, y, 0) (a, b, v)
    · -- the key lies left of the node: nothing from the node on has it
      rw [(keyLtB_iff x y a b v 0).mpr hlt, cond_true, lookupIn_none ((a, b, v) :: r.toList) x y fun e he => by
        have : keyLt (x, y, 0) e := by
          rcases List.mem_cons.mp he with rfl | he
          · exact hlt
          · exact keyLt_trans hlt (above e he)
        unfold keyLt at this; simp only at this; omega]
      cases lookupIn l.toList x y <;> rfl
    · -- otherwise nothing in the left subtree has it, and the node is tested first
      have hb : (Nat.blt x a || (Nat.beq x a && Nat.blt y b)) = false :=
        Bool.eq_false_iff.mpr fun h => hlt ((keyLtB_iff x y a b v 0).mp h)
      rw [hb, cond_false, lookupIn_none l.toList x y fun e he => by
        have := below e he
        unfold keyLt at this hlt; simp only at this hlt; omega]
      simp only [lookupIn]
      cases Nat.beq x a && Nat.beq y b <;> rfl
theorem lookupForest_eq : ∀ (ts : List KwTree) (x y : Nat), strictSorted (forestToList ts) = true →
    lookupForest ts x y = lookupIn (forestToList ts) x y
  | [], _, _, _ => rfl
  | t :: ts, x, y, hs => by
    have hs' : strictSorted (t.toList ++ forestToList ts) = true := hs
    simp only [lookupForest, forestToList]
    rw [lookupIn_append, KwTree.lookup_eq t x y (strictSorted_append_left _ _ hs'),
      lookupForest_eq ts x y (strictSorted_append_right _ _ hs')]
    cases lookupIn t.toList x y <;> rfl

/-- Bool-valued equality of two tables (kernel-friendly) -/
def eqEntries : List (Nat × Nat × Nat) → List (Nat × Nat × Nat) → Bool
  | [], [] => true
  | a :: as, b :: bs => Nat.beq a.1 b.1 && Nat.beq a.2.1 b.2.1 && Nat.beq a.2.2 b.2.2 && eqEntries as bs
  | _, _ => false

theorem eqEntries_sound : ∀ (a b : List (Nat × Nat × Nat)), eqEntries a b = true → a = b
  | [], [], _ => rfl
  | [], _ :: _, h => by cases h
  | _ :: _, [], h => by cases h
  | (a1, a2, a3) :: as, (b1, b2, b3) :: bs, h => by
    simp only [eqEntries, Bool.and_eq_true] at h
    obtain ⟨⟨⟨h1, h2⟩, h3⟩, h4⟩ := h
    rw [Nat.eq_of_beq_eq_true h1, Nat.eq_of_beq_eq_true h2, Nat.eq_of_beq_eq_true h3, eqEntries_sound as bs h4]

/-- table fact, re-checked by the kernel on every build: the regenerated forest lists exactly the regenerated table -/
theorem kwTrees_toList : forestToList Gen.kwTrees = Gen.keywords :=
  eqEntries_sound _ _ (by decide +kernel)

/-- look-up used by the executable model (and by kernel evaluation): tree search -/
def lookupKwT (l n : Nat) : Option Nat := lookupForest Gen.kwTrees l n

theorem lookupKwT_eq (l n : Nat) : lookupKwT l n = lookupKw l n := by
  unfold lookupKwT lookupKw
  rw [← kwTrees_toList]
  exact lookupForest_eq _ _ _ (by rw [kwTrees_toList]; exact keywords_strictSorted)

/-- `searchKeyword(key, sqlKeywords)`: class byte, or 0 -/
def searchKeyword (w : Bytes) : UInt8 :=
  let u := goUpper w
  match lookupKwT u.length (keyNat u) with
  | some v => v.toUInt8
  | none => 0

/-- the specification form of `searchKeyword`: linear search of the sorted table -/
def searchKeywordSpec (w : Bytes) : UInt8 :=
  let u := goUpper w
  match lookupKw u.length (keyNat u) with
  | some v => v.toUInt8
  | none => 0

theorem searchKeyword_eq (w : Bytes) : searchKeyword w = searchKeywordSpec w := by
  unfold searchKeyword searchKeywordSpec
  simp only [lookupKwT_eq]

/-- `toUpperCmp(a, b)` with `a` an ASCII literal -/
def toUpperCmp (a : Bytes) (b : Bytes) : Bool := a == goUpper b

end LibInj.Sqli
