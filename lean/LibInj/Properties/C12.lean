import LibInj.Sqli.Check
import LibInj.Proofs.QuoteShift
import LibInj.Proofs.QuoteFold
import LibInj.Proofs.QuoteSlot
/-! # C12 — IsSQLi equals the ordered disjunction of its documented parsing contexts

`pass s F` is one reading of `s` under context `F` *on a fresh state* (`fingerprint` starts from
`sqliInit`): independence of a reading from the readings tried before it is definitional in the model
and is what the correspondence (`fp F` on a fresh state vs `is`) checks on the code.

Proved: `isSQLi_cascade` (the cascade with its three gates, in order, first firing wins) and its two
corollaries; and the quote-shift clause: for every non-empty `x`, quote `q` and parsing mode, reading `x`
inside `q` and reading `q :: x` as-is give raw token streams of the same length that agree pairwise in
class, length, value, count and closing mark, with offsets and ends of scan shifted by exactly one (only the
first token's opening-quote mark differs; `quote_shift_tokens`), the same fingerprint
(`quote_shift_fingerprint`) and, outside `sos`/`s&s`, the same verdict (`quote_shift_verdict`). -/
namespace LibInj.Properties.C12
open LibInj LibInj.Sqli

def asisAnsi : Nat := flagQuoteNone ||| flagAnsi
def asisMysql : Nat := flagQuoteNone ||| flagMysql
def singleAnsi : Nat := flagQuoteSingle ||| flagAnsi
def singleMysql : Nat := flagQuoteSingle ||| flagMysql
def doubleMysql : Nat := flagQuoteDouble ||| flagMysql

def hasSingle (s : Bytes) : Bool := (indexByte s 39).isSome
def hasDouble (s : Bytes) : Bool := (indexByte s 34).isSome

/-- the documented cascade, as a function of the five per-context results
(verdict, fingerprint, "a `#` or `--x` comment was counted") -/
def cascade (s : Bytes) (a b c d e : Bool × Bytes × Bool) : Bool × Bytes :=
  if a.1 then (true, a.2.1)
  else if a.2.2 && b.1 then (true, b.2.1)
  else if hasSingle s && c.1 then (true, c.2.1)
  else if hasSingle s && c.2.2 && d.1 then (true, d.2.1)
  else if hasDouble s && e.1 then (true, e.2.1)
  else (false, [])

theorem gated_ok {p : M (Bool × Bytes × Bool)} {x : Bool × Bytes × Bool} (h : p = .ok x) (g : Bool) :
    gated g p = .ok (if g then x else noPass) := by
  cases g
  · rfl
  · exact h

theorem gated_reparse (g : Bool) (x : Bool × Bytes × Bool) :
    (g && (if g = true then x else noPass).2.2) = (g && x.2.2) := by
  cases g <;> rfl

/-- one stage of the cascade: a gated reading fires, or control passes on -/
theorem stage (g : Bool) (x : Bool × Bytes × Bool) (k : M (Bool × Bytes)) (k' : Bool × Bytes) (h : k = .ok k') :
    (if (if g = true then x else noPass).1 = true then pure (true, (if g = true then x else noPass).2.1) else k) =
      .ok (if (g && x.1) = true then (true, x.2.1) else k') := by
  obtain ⟨fires, _⟩ := x
  rw [h]
  cases g
  · rfl
  · cases fires <;> rfl

/-- **C12, cascade.** For a non-empty input whose five readings return, `isSQLi` is the first firing
element of [as-is/ANSI, as-is/MySQL*, '/ANSI**, '/MySQL*, "/MySQL***] (* only if that ANSI pass
counted a `#` or `--x` comment, ** only if the input contains ', *** only if it contains "), and
the fingerprint returned is that of the first such reading. -/
theorem isSQLi_cascade (s : Bytes) (hs : s ≠ []) (a b c d e : Bool × Bytes × Bool)
    (ha : pass s asisAnsi = .ok a) (hb : pass s asisMysql = .ok b)
    (hc : pass s singleAnsi = .ok c) (hd : pass s singleMysql = .ok d)
    (he : pass s doubleMysql = .ok e) :
    isSQLi s = .ok (cascade s a b c d e) := by
  have hlen : (s.length == 0) = false := by
    cases s with
    | nil => exact absurd rfl hs
    | cons _ _ => simp
  unfold isSQLi cascade hasSingle hasDouble
  unfold asisAnsi at ha; unfold asisMysql at hb; unfold singleAnsi at hc
  unfold singleMysql at hd; unfold doubleMysql at he
  simp only [hlen, ha, gated_ok hb, gated_ok hc, gated_ok hd, gated_ok he, ok_bind, Bool.false_eq_true, ↓reduceIte,
    gated_reparse]
  exact stage true a _ _ (stage _ b _ _ (stage _ c _ _ (stage _ d _ _ (stage _ e _ _ rfl))))

theorem isSQLi_nil : isSQLi [] = .ok (false, []) := by
  simp [isSQLi, pure, Except.pure]

/-- `pass` unfolded, nothing more: the fingerprint from `sqliInit`, then the verdict. That a reading does not
depend on the readings tried before it is therefore built into the model, not proved here -/
theorem pass_fresh (s : Bytes) (F : Nat) :
    pass s F = (do let st ← fingerprint s F; return (← checkFingerprint st, st.fingerprint, reparseAsMySQL st)) := rfl

/-- if no reading fires, the verdict is false with the empty fingerprint -/
theorem isSQLi_none_fires (s : Bytes) (hs : s ≠ []) (a b c d e : Bool × Bytes × Bool)
    (ha : pass s asisAnsi = .ok a) (hb : pass s asisMysql = .ok b)
    (hc : pass s singleAnsi = .ok c) (hd : pass s singleMysql = .ok d)
    (he : pass s doubleMysql = .ok e)
    (h : a.1 = false ∧ b.1 = false ∧ c.1 = false ∧ d.1 = false ∧ e.1 = false) :
    isSQLi s = .ok (false, []) := by
  rw [isSQLi_cascade s hs a b c d e ha hb hc hd he]
  simp [cascade, h.1, h.2.1, h.2.2.1, h.2.2.2.1, h.2.2.2.2]

/-- the quote-shift relation of C12 on fingerprints, full statement -/
def quote_shift_statement : Prop :=
  ∀ (s : Bytes) (q : UInt8) (d : Nat), s ≠ [] → (q = 39 ∨ q = 34) → (d = flagAnsi ∨ d = flagMysql) →
    ∀ st1 st2, fingerprint s ((if q = 39 then flagQuoteSingle else flagQuoteDouble) ||| d) = .ok st1 →
      fingerprint (q :: s) (flagQuoteNone ||| d) = .ok st2 → st1.fingerprint = st2.fingerprint

/-- the quote contexts of `isSQLi`: their delimiter, and the as-is context with the same comment mode -/
theorem quote_context (q : UInt8) (d : Nat) (hq : q = 39 ∨ q = 34) (hd : d = flagAnsi ∨ d = flagMysql) :
    (hasFlag ((if q = 39 then flagQuoteSingle else flagQuoteDouble) ||| d) flagQuoteSingle ||
      hasFlag ((if q = 39 then flagQuoteSingle else flagQuoteDouble) ||| d) flagQuoteDouble) = true ∧
    flag2Delim ((if q = 39 then flagQuoteSingle else flagQuoteDouble) ||| d) = q ∧
    asIs ((if q = 39 then flagQuoteSingle else flagQuoteDouble) ||| d) = flagQuoteNone ||| d := by
  rcases hq with rfl | rfl <;> rcases hd with rfl | rfl <;> decide

/-- **C12, quote shift, fingerprints.** Reading `s` as the continuation of a quoted string and reading
`quote ++ s` as-is give the same fingerprint, in both comment modes: after the first token the as-is
scanner state is the image of the in-quote state under `phiS` (input one byte longer, offsets + 1, the
virtual opening quote made real), and `tokenize`, every fold rule, the loops, the empty-backtick
re-categorisation and the fingerprint construction commute with that map (`Proofs/QuoteFold`). -/
theorem quote_shift_fingerprint : quote_shift_statement := by
  intro s q d hs hq hd st1 st2 h1 h2
  obtain ⟨hF, hdl, has⟩ := quote_context q d hq hd
  rw [← has, (sim_ok (fingerprint_sim s hs q _ hF hdl) h1).1] at h2
  cases h2
  rfl

/-- **C12, quote shift, verdicts.** Same fingerprint, same MySQL re-parse flag, and the same verdict unless
the fingerprint is `sos` or `s&s` (whose whitelist rule looks at the opening-quote mark). The one other
whitelist rule that could tell the readings apart — `1c`, which reads the input at the first token's offset —
is never reached: the string token of a quote reading stays in slot 0 through `fold` (`Slot0` of `Proofs/QuoteSlot`),
so the fingerprint begins with `s` or is `X`. -/
theorem quote_shift_verdict (s : Bytes) (q : UInt8) (d : Nat) (hs : s ≠ []) (hq : q = 39 ∨ q = 34)
    (hd : d = flagAnsi ∨ d = flagMysql) (a b : Bool × Bytes × Bool)
    (ha : pass (q :: s) (flagQuoteNone ||| d) = .ok a)
    (hb : pass s ((if q = 39 then flagQuoteSingle else flagQuoteDouble) ||| d) = .ok b) :
    a.2.1 = b.2.1 ∧ a.2.2 = b.2.2 ∧ (b.2.1 ≠ bs "sos" → b.2.1 ≠ bs "s&s" → a.1 = b.1) := by
  obtain ⟨hF, hdl, has⟩ := quote_context q d hq hd
  rw [← has] at ha
  exact pass_quote s hs q _ hF hdl a b ha hb

/-- **C12, quote shift, tokens.** The raw token streams of the two readings have the same length and agree
pairwise up to the offset shift (`RawRel`); only the first pair differs in the opening-quote mark. -/
theorem quote_shift_tokens (x : Bytes) (hx : x ≠ []) (q : UInt8) (d : Nat) (hq : q = 39 ∨ q = 34)
    (hd : d = flagAnsi ∨ d = flagMysql) :
    ∃ ts1 sf1 ts2 sf2, rawTokens (q :: x) (flagQuoteNone ||| d) = .ok (ts1, sf1) ∧
      rawTokens x ((if q = 39 then flagQuoteSingle else flagQuoteDouble) ||| d) = .ok (ts2, sf2) ∧
      AllRel RawRel ts1 ts2 := by
  obtain ⟨hF, hdl, has⟩ := quote_context q d hq hd
  rw [← has]
  exact raw_tokens_quote_shift x hx q _ hF hdl

/-- the cascade on sample results: a firing first reading wins -/
example : cascade [49] (true, [49], false) noPass noPass noPass noPass = (true, [49]) := by decide

end LibInj.Properties.C12
