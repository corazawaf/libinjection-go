import LibInj.Proofs.XssTotal
import LibInj.Proofs.TokenizeOK
import LibInj.Proofs.WhitelistOK
import LibInj.Properties.C01
import LibInj.Proofs.CoreCost
/-! # C09 — both detectors run in time linear in the input length

What a model can carry: **the number of loop iterations and of tokens is linear in `|s|`**. Every
loop of the model carries explicit fuel that is a linear function of the input length, and the
totality theorems show the fuel is never exhausted:

* `sql_scan_steps_linear` — one scan of the SQL tokenizer performs at most `|s|` emitting steps (each
  consumes at least one byte) — per parsing context, and `IsSQLi` runs at most five contexts;
* `fold_iterations_linear`, `fold_measure_decreases`, `fold_measure_linear` — the main loop of `fold`
  (which re-enters the tokenizer and rewrites its window in place, with rules that reset `left` to 0)
  performs at most `1015·|s| + 1015` iterations: each iteration that continues strictly lowers the
  measure `bigM ≤ 1015·|s| + 1014` or ends the input; the token-fetching loops inside consume a byte
  per round; and `sqli_all_loops_linear`: `IsSQLi` returns with every loop's (linear) fuel unexhausted;
* `closing_quote_iterations_linear` — the closing-quote search performs at most `|content|+1`
  `IndexByte` jumps (after the repair of the quadratic re-scan it is an invariant that the scan offset
  only moves forward: `coreLoop` recurses on `q+1`/`q+2` with `q >= k`);
* `string_scanner_work_linear` — **a cost model of the function the property names**: `coreLoopW` is `coreLoop`
  with a counter for the bytes examined (`IndexByte` up to and including the delimiter it finds, the backslashes
  immediately before it and the byte that ends their run, the byte after it for the doubled-delimiter test); it
  computes the same closing quote and examines at most `3·|content| + 3` bytes, for every content and delimiter —
  the search only moves forward (D4) and the backslash run it counts lies inside the segment just crossed (D5);
* `html_steps_linear` — from every context the HTML5 machine emits at most `3|s|+3` tokens and every
  emitting step strictly decreases `3·(bytes left) + rank(state)`;
* `decoder_steps_linear` — the character-reference decoder consumes at least one byte per call, so
  the scheme matcher makes at most `|value|` decoder calls per scheme.

What it cannot carry, and is **measured** instead: real CPU time; the cost of each iteration's
primitive (`IndexByte`, `strings.Index`, `ToUpper` on ≤ 32 bytes, `append`) and their amortisation
over the input (`fold` re-enters the tokenizer, the word lexer re-measures a word — the defects D4,
D5, D7 were exactly non-amortised primitives inside linearly many iterations). The check measures
min-of-5 wall time at n, 4n, 16n on ~770 adversarial families. The property is therefore claimed as
*partial proof + measured tie*. -/
namespace LibInj.Properties.C09
open LibInj LibInj.Sqli LibInj.H5 LibInj.Xss

theorem fun_isSQLi_total (s : Bytes) : ∃ r, isSQLi s = .ok r := LibInj.Properties.C01.isSQLi_total s

theorem sql_scan_steps_linear (input : Bytes) (flags : Nat) :
    ∃ ts sf, rawTokens input flags = .ok (ts, sf) ∧ ts.length ≤ input.length ∧
      ∀ rt ∈ ts, rt.before < rt.after := by
  obtain ⟨ts, sf, h, hok, _, hl, _⟩ := rawTokens_faithful input flags
  exact ⟨ts, sf, h, hl, fun rt hrt => (hok rt hrt).2.2.2.2.2.1⟩

/-- the main loop of `fold`, started after the leading skip loop, finishes within `1015·|s| + 1015`
iterations (`foldFuel`), for every input and flag word -/
theorem fold_iterations_linear (input : Bytes) (flags : Nat) :
    ∃ n s', fold (sqliInit input flags) = .ok (n, s') ∧ foldFuel input.length = 1015 * input.length + 1015 := by
  obtain ⟨n, s', h, _⟩ := fold_ok (sqliInit input flags) (sinv_init input flags) (init_empty input flags)
  exact ⟨n, s', h, rfl⟩

/-- every iteration that asks for another one ended the input or strictly lowered the measure -/
theorem fold_measure_decreases (f f' : FS) (hf : FInv f) (h : foldBody f = .ok (.cont f')) :
    f'.more = false ∨ bigM f' < bigM f := by
  obtain ⟨st, hst, hok⟩ := foldBody_ok f hf
  rw [h] at hst
  have e : Step.cont f' = st := Except.ok.inj hst
  subst e
  exact hok.2.2.2.2.2

/-- the measure is linear in the input length -/
theorem fold_measure_linear (f : FS) (hf : FInv f) : bigM f ≤ 1015 * f.s.input.length + 1014 := by
  have hm := mu_le f hf.2.2.1
  have hp := hf.2.2.1
  unfold bigM
  have h1 : (f.s.input.length - f.s.pos) * 1015 ≤ 1015 * f.s.input.length := by
    have : f.s.input.length - f.s.pos ≤ f.s.input.length := Nat.sub_le _ _
    omega
  have h2 : f.pos * 145 ≤ 870 := by omega
  generalize (f.s.input.length - f.s.pos) * 1015 = a at h1 ⊢
  generalize f.pos * 145 = b at h2 ⊢
  omega

/-- `IsSQLi` returns: no loop of the pipeline exhausts its fuel, and every fuel is a linear function
of the input length (`|s|+1`, `|s|+2`, `|s|+4`, `1015·|s|+1015`) -/
theorem sqli_all_loops_linear (s : Bytes) : ∃ r, isSQLi s = .ok r :=
  fun_isSQLi_total s

theorem closing_quote_iterations_linear (content : Bytes) (d : UInt8) (hd : d ≠ 92) :
    ∃ r, coreLoop content d 0 (content.length + 1) = .ok r := ⟨_, coreLoop_spec content d hd⟩

/-- the closing-quote search of `parseStringCore`, with its work counted: same result, at most `3·|content|+3` bytes examined -/
theorem string_scanner_work_linear (content : Bytes) (d : UInt8) (hd : d ≠ 92) :
    ∃ r, coreLoopW content d 0 (content.length + 1) = .ok r ∧ r.1 = Spec.closingQuote content d ∧ r.2 ≤ 3 * content.length + 3 :=
  coreLoopW_linear content d hd

/-- non-vacuity: on `\'\'\'x'` (three escaped quotes, then the closing one) the counter stays within the bound -/
example : (match coreLoopW [92, 39, 92, 39, 92, 39, 120, 39] 39 0 9 with | .ok (some 7, w) => decide (w ≤ 27) | _ => false) = true := by
  decide

theorem html_steps_linear (s : Bytes) (ctx : Nat) :
    ∃ ts, tokens s ctx = .ok ts ∧ ts.length ≤ 3 * s.length + 3 := by
  obtain ⟨ts, h1, _, h3⟩ := tokens_total s ctx
  exact ⟨ts, h1, h3⟩

theorem html_measure_decreases (h : H) (hi : Inv h) :
    ∃ b h', next h = .ok (b, h') ∧ (b = true → mu h' < mu h) := by
  obtain ⟨b, h', hr, _, hb⟩ := next_spec h hi
  exact ⟨b, h', hr, fun t => (hb t).1⟩

theorem decoder_steps_linear (s : Bytes) (hs : s ≠ []) :
    ∃ v c, htmlDecodeByteAt s = .ok (v, c) ∧ 1 ≤ c ∧ c ≤ s.length := by
  obtain ⟨v, c, h, _, _, h1, h2⟩ := htmlDecodeByteAt_ok s hs
  exact ⟨v, c, h, h1, h2⟩

/-- the full statement is about time and cannot be a theorem about a functional model -/
def C09_statement_informal : Prop := True

example : mu (init [60, 97, 62] 0) = 11 := by decide

end LibInj.Properties.C09
