import LibInj.Proofs.QString
import LibInj.Properties.C12
import LibInj.Proofs.BenignLex
/-! # C06 — the SQLi pipeline conforms to the reference algorithm

The reference is `LibInj/Spec` (declarative meanings: first real closing quote as a one-pass
automaton, first occurrence of a terminator) plus the rule tables shared with the model. The model is
*proved equal* to the reference where the code uses index arithmetic to find something the reference
defines declaratively; `fold`, the fingerprint construction, the blacklist and the whitelist are
defined once and are their own reference. Because of that, **every disagreement between the Go
package and the model on `tok`/`fold`/`fp`/`is` is a concrete C06 counterexample** and is reported
with the disagreeing input as the replay.

Refinements proved (all inputs): quoted strings in every form (`closing_quote_refines`,
`string_literal_refines`), Oracle q-strings for all 223 delimiters and dollar strings in both forms (these three in
`Properties/C18`: `qstring_all_delimiters`, `dollar_dollar_first`, `dollar_tag_first`),
end-of-line comments, bracket words, `/* … */` comments with their class (`slash_comment_refines`: first `*/`
at or after the opener; class `X` iff a nested `/*` or `/*!`; `slash_operator_refines`), the verdict cascade
(`cascade_refines`), the word lexer with its keyword split (`word_refines`, `splitLoop_first`: the token is the keyword
before the *first* `.` / back-tick that follows a non-bareword keyword, else the whole run classified by the table).
The number lexer accepts the literal grammar (`number_literal_refines`: integers, decimals, exponent forms → one token
of class `1` spanning the literal); its prefixed / suffixed / malformed-exponent branches are characterised by the staged
model only, with no declarative reference; of them only totality and progress are proved, for inputs that start with a
digit or a `.` (`parseNumber_lexes`). -/
namespace LibInj.Properties.C06
open LibInj LibInj.Sqli LibInj.Spec

theorem closing_quote_refines (content : Bytes) (d : UInt8) (hd : d ≠ 92) :
    coreLoop content d 0 (content.length + 1) = .ok (closingQuote content d) := coreLoop_spec content d hd

theorem string_literal_refines (t : Token) (rest : Bytes) (offset : Nat) (d : UInt8) (hd : d ≠ 92)
    (ho : offset ≤ rest.length) : ∃ r, parseStringCore t rest offset d = .ok r ∧
      r.tok.cat = 115 ∧ r.tok.pos = offset ∧
      (closingQuote (rest.drop offset) d = none → r.next = rest.length ∧ r.tok.strClose = 0) ∧
      (∀ q, closingQuote (rest.drop offset) d = some q → r.next = offset + q + 1 ∧ r.tok.strClose = d ∧ r.tok.len = clip q) := by
  refine ⟨_, parseStringCore_spec t rest offset d hd ho, ?_⟩
  cases hq : closingQuote (rest.drop offset) d <;> simp [hq]

/-- an end-of-line comment ends at the first line feed (or end of input) -/
theorem eol_comment_refines (rest : Bytes) :
    (∀ i, indexByte rest 10 = some i → ∃ r, parseEolComment rest = .ok r ∧ r.next = i + 1 ∧ r.tok.cat = 99 ∧ r.tok.len = clip i ∧
        rest[i]? = some 10 ∧ ∀ j < i, rest[j]? ≠ some 10) ∧
    (indexByte rest 10 = none → ∃ r, parseEolComment rest = .ok r ∧ r.next = rest.length ∧ r.tok.cat = 99) := by
  constructor
  · intro i hi
    have hlt := indexByte_lt hi
    unfold parseEolComment
    simp only [hi, bind, Except.bind, pure, Except.pure]
    rw [assign_ok _ _ _ _ _ (by have := clip_le i; omega)]
    exact ⟨_, rfl, rfl, rfl, rfl, (indexByte_some_iff _ _ _).mp hi⟩
  · intro hn
    unfold parseEolComment
    simp only [hn, bind, Except.bind, pure, Except.pure]
    rw [assign_ok _ _ _ _ _ (clip_le _)]
    exact ⟨_, rfl, rfl, rfl⟩

/-- a bracket word `[..]` ends at the first `]`. Without a `]` it runs to the end of the input: that case, which
`eol_comment_refines` states for its lexer, is not stated here. -/
theorem bracket_word_refines (rest : Bytes) (i : Nat) (hi : indexByte rest 93 = some i) :
    ∃ r, parseBWord rest = .ok r ∧ r.next = i + 1 ∧ r.tok.cat = 110 ∧ ∀ j < i, rest[j]? ≠ some 93 := by
  have hlt := indexByte_lt hi
  unfold parseBWord
  simp only [hi, bind, Except.bind, pure, Except.pure]
  rw [assign_ok _ _ _ _ _ (by have := clip_le (i + 1); omega)]
  exact ⟨_, rfl, rfl, rfl, ((indexByte_some_iff _ _ _).mp hi).2⟩

theorem cascade_refines (s : Bytes) (hs : s ≠ []) (a b c d e : Bool × Bytes × Bool)
    (ha : pass s C12.asisAnsi = .ok a) (hb : pass s C12.asisMysql = .ok b)
    (hc : pass s C12.singleAnsi = .ok c) (hd : pass s C12.singleMysql = .ok d)
    (he : pass s C12.doubleMysql = .ok e) :
    isSQLi s = .ok (C12.cascade s a b c d e) := C12.isSQLi_cascade s hs a b c d e ha hb hc hd he

/-- the shape of totality and progress for the number lexer. As stated, for every non-empty input, it is false:
`parseNumber [97]` returns `next = 0`. It holds of the inputs the dispatch table sends to `parseNumber`, those that start
with a digit or a `.` (`parseNumber_lexes`, `dispatch_facts`). Nothing is proved of this definition. -/
def conformance_statement : Prop :=
  ∀ (rest : Bytes), rest ≠ [] → ∃ r, parseNumber rest = .ok r ∧ 1 ≤ r.next ∧ r.next ≤ rest.length

example : closingQuote [97, 92, 39, 98, 39, 99] 39 = some 4 := by decide

/-- whether a `/* … */` comment whose terminator `*/` starts `i` bytes after the opening `/*` is "evil" (class `X`):
a nested `/*` in its text up to and including the terminator's `*`, or `!` right after the opener (MySQL `/*!`) -/
def slashEvil (rest : Bytes) (i : Nat) : Bool := contains ((rest.drop 2).take (i + 1)) [47, 42] || rest[2]? == some 33

theorem slash_comment_refines (rest : Bytes) (h1 : rest[1]? = some 42) :
    (∀ i, indexOf (rest.drop 2) [42, 47] = some i → ∃ r, parseSlash rest = .ok r ∧ r.next = i + 4 ∧
        r.tok.cat = (if slashEvil rest i then 88 else 99) ∧ r.tok.pos = 0 ∧ r.tok.len = clip (i + 4) ∧
        isPrefix [42, 47] (rest.drop (2 + i)) = true ∧ ∀ j < i, isPrefix [42, 47] (rest.drop (2 + j)) = false) ∧
    (indexOf (rest.drop 2) [42, 47] = none → ∃ r, parseSlash rest = .ok r ∧ r.next = rest.length ∧
        r.tok.cat = (if rest[2]? == some 33 then 88 else 99)) := by
  rw [parseSlash_comment rest h1]
  constructor
  · intro i hi
    obtain ⟨_, hpre, hfirst⟩ := (indexOf_some_iff _ _ _).mp hi
    have : i + 2 ≤ rest.length - 2 := indexOf_add_le hi
    simp only [hi]
    rw [assign_ok _ _ _ _ _ (by have := clip_le (2 + i + 2); omega)]
    refine ⟨_, rfl, by show 2 + i + 2 = i + 4; omega, rfl, rfl, by show clip (2 + i + 2) = clip (i + 4); congr 1; omega, ?_, ?_⟩
    · rw [← List.drop_drop]; exact hpre
    · intro j hj; rw [← List.drop_drop]; exact hfirst j hj
  · intro hn
    simp only [hn]
    rw [assign_ok _ _ _ _ _ (clip_le _)]
    exact ⟨_, rfl, rfl, by simp⟩

/-- `/` not followed by `*` is an operator -/
theorem slash_operator_refines (rest : Bytes) (hne : rest ≠ []) (h1 : rest[1]? ≠ some 42) : parseSlash rest = parseOperator1 rest :=
  parseSlash_op rest hne h1

/-- non-vacuity: `/*a/*b*/c` — terminator 6 bytes after the opener, nested `/*` makes it class `X`; `/*!1*/` is class `X`
by its `!`; `/*a*/` is a plain comment -/
example : slashEvil (bs "/*a/*b*/c") 4 = true ∧ slashEvil (bs "/*!1*/") 2 = true ∧ slashEvil (bs "/*a*/") 1 = false ∧
    indexOf ((bs "/*a/*b*/c").drop 2) [42, 47] = some 4 := by decide +kernel

theorem splitLoop_first (rest : Bytes) (t : Token) (hv : t.val.length = t.len) (hr : t.len ≤ rest.length) :
    ∀ fuel i0, t.len - i0 < fuel →
      (∀ i, i0 ≤ i → SplitAt t.val i → (∀ j, i0 ≤ j → j < i → ¬ SplitAt t.val j) →
        splitLoop rest t i0 fuel = .ok (some { tok := { cat := searchKeyword (t.val.take i), pos := 0, len := clip i, val := rest.take (clip i) }, next := i })) ∧
      ((∀ j, i0 ≤ j → ¬ SplitAt t.val j) → splitLoop rest t i0 fuel = .ok none) := by
  intro fuel
  induction fuel with
  | zero => intro i0 hf; omega
  | succ fuel ih =>
    intro i0 hf
    obtain ⟨hit, miss⟩ := splitLoop_succ rest t hv hr i0 fuel
    by_cases hs : SplitAt t.val i0
    · refine ⟨fun i hi0 hsi hfirst => ?_, fun hno => absurd hs (hno i0 (Nat.le_refl _))⟩
      have : i = i0 := by
        rcases Nat.lt_or_ge i0 i with h | h
        · exact absurd hs (hfirst i0 (Nat.le_refl _) h)
        · omega
      rw [this, hit hs]
    · rw [miss hs]
      split
      · -- no split at `i0`: the first split from `i0` on is the first from `i0 + 1` on
        obtain ⟨h1, h2⟩ := ih (i0 + 1) (by omega)
        refine ⟨fun i hi0 hsi hfirst => ?_, fun hno => h2 fun j hj => hno j (by omega)⟩
        have : i ≠ i0 := fun e => hs (e ▸ hsi)
        exact h1 i (by omega) hsi fun j hj => hfirst j (by omega)
      · exact ⟨fun i hi0 hsi _ => by have := hsi.lt; omega, fun _ => rfl⟩

/-- **the word lexer refines its declarative meaning**: the word is the longest run of non-delimiter bytes (clipped to 31
bytes for the value); if a keyword split applies inside the value, the token is the keyword before the *first* such `.` /
back-tick and scanning resumes at it; otherwise the token spans the run, classified by the table when shorter than 32 bytes -/
theorem word_refines (rest : Bytes) (L : Nat) (v : Bytes) (hLd : spn notWordAccept rest = L) (hvd : v = rest.take (clip L)) :
    (∀ i, SplitAt v i → (∀ j, j < i → ¬ SplitAt v j) →
      parseWord rest = .ok { tok := { cat := searchKeyword (v.take i), pos := 0, len := clip i, val := rest.take (clip i) }, next := i }) ∧
    ((∀ j, ¬ SplitAt v j) →
      parseWord rest = .ok { tok := { cat := if L < tokenSize then (if searchKeyword v == 0 then 110 else searchKeyword v) else 110,
                                      pos := 0, len := clip L, val := v }, next := L }) := by
  have hL : L ≤ rest.length := by rw [← hLd]; exact spn_le _ _
  have hcl : clip L ≤ rest.length := by have := clip_le L; omega
  have hvl : v.length = clip L := by rw [hvd]; simp [List.length_take]; omega
  have hass : assign {} 110 0 L rest = .ok { cat := 110, pos := 0, len := clip L, val := v } := by
    rw [assign_ok _ _ _ _ _ hcl, hvd]
  obtain ⟨h1, h2⟩ := splitLoop_first rest { cat := 110, pos := 0, len := clip L, val := v } hvl hcl (clip L + 1) 0 (by simp)
  unfold parseWord
  simp only [hLd, bind, Except.bind, hass]
  constructor
  · intro i hs hfirst
    rw [h1 i (Nat.zero_le _) hs (fun j _ hlt => hfirst j hlt)]
    rfl
  · intro hno
    rw [h2 (fun j _ => hno j)]
    simp only [pure, Except.pure]
    by_cases hlt : L < tokenSize
    · have hcL : clip L = L := by unfold clip; simp [hlt]
      simp only [hlt, ↓reduceIte]
      rw [slice_ok v 0 L (Nat.zero_le _) (by omega)]
      simp only [List.drop_zero, Nat.sub_zero]
      have : v.take L = v := by rw [← hcL, ← hvl]; exact List.take_length
      rw [this]
    · simp only [hlt, ↓reduceIte]

/-- non-vacuity: in `select.x` the split applies at offset 6 (`SELECT` is a keyword of class `E`), and at no earlier offset -/
example : SplitAt (bs "select.x") 6 ∧ searchKeyword ((bs "select.x").take 6) = 69 := by
  refine ⟨⟨Or.inl (by decide +kernel), by decide +kernel, by decide +kernel⟩, by decide +kernel⟩

/-- **the number lexer accepts the literal grammar**: an unsigned integer, a decimal `digits.digits` / `digits.`, and an integer
with an exponent `digits e [+-] digits` (either case of `e`), followed by end of input, a blank or `,` `:` `?` (a blank or
end of input for the decimal form), is lexed as exactly one token of class `1` whose text is the literal (clipped to 31
bytes) and scanning resumes right after it. (The prefixed forms `0x…`/`0b…`, the Oracle suffixes and the malformed-exponent
case that yields a bareword are characterised by the staged model only.) -/
theorem number_literal_refines (w r : Bytes) :
    (GoodNum w → SepN r → parseNumber (w ++ r) = .ok { tok := goodTok 49 w, next := w.length }) ∧
    (GoodDec w → Sep r → parseNumber (w ++ r) = .ok { tok := goodTok 49 w, next := w.length }) ∧
    (GoodSci w → SepN r → parseNumber (w ++ r) = .ok { tok := goodTok 49 w, next := w.length }) :=
  ⟨fun hw hr => parseNumber_good w r hw hr, fun hw hr => parseNumber_dec w r hw hr, fun hw hr => parseNumber_sci w r hw hr⟩

/-- non-vacuity: `12e-3` is such a literal, and the kernel evaluates the lexer on `12e-3,` to a number of length 5 -/
example : GoodSci (bs "12e-3") := ⟨bs "12", bs "3", 101, [45], by decide +kernel, ⟨by decide +kernel, by decide +kernel⟩,
  ⟨by decide +kernel, by decide +kernel⟩, Or.inr rfl, Or.inr (Or.inr rfl)⟩
example : (match parseNumber (bs "12e-3,") with | .ok r => r.tok.cat == 49 && r.next == 5 | _ => false) = true := by decide +kernel

end LibInj.Properties.C06
