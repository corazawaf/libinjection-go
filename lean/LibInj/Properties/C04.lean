import LibInj.Xss.IsXSS
import LibInj.Proofs.XssTotal
import LibInj.Proofs.XssLift
import LibInj.Proofs.XssShift
import LibInj.Proofs.SchemeEnc
import LibInj.Proofs.XssMarkup
import LibInj.Proofs.NulClass
import LibInj.Proofs.H5Case
/-! # C04 — canonical XSS vectors are detected in every HTML injection context

Proved over the lists regenerated from /repo on every build: every black tag, every
`on<event>` name and every black attribute is classified as dangerous by `isBlackTag` /
`isBlackAttr` as it is listed (one kernel-evaluated table fact per list) and therefore, the classifiers
ignoring letter case and NUL bytes, in upper case, lower case, alternating case and with a NUL inserted
after the first byte; every scheme of the URL matcher is recognised by `isBlackURL` in lower case, behind leading
junk and with NUL/LF inside; the seven fixed inputs `markupForms` are reported by `isXSS` on the model
(kernel-evaluated). A deleted or mistyped list entry, or a classifier that loses a spelling, breaks
these theorems without any test input having to hit it.

**Proved for every input of these shapes (the tokenizer side, `Proofs/XssLift`):**

* `black_element_detected` — after any `<`-free text, `<name` followed by a byte that ends the name
  (white space, `/`, `>`) or by end of input, then by **anything**, is reported, for every name that
  is a case re-spelling of a listed element;
* `event_handler_detected_*`, `style_detected_in_tag` — `name = value` with `name` a case re-spelling of
  `on<event>` for a listed event (or a name the classifier rates 3: `style`, `filter`), any blanks
  around `=`, and **any** value (quoted, back-quoted or bare) followed by anything, is reported: for the event
  handlers in the tag context itself, on any element in element content, and after breaking out of a single-,
  double- or back-quoted value; every other combination of attribute class and situation is an instance of
  `Xss.attr_in_tag_context`, `attr_in_element`, `attr_after_breakout` over `BlackAttr` (`Proofs/XssLift`);
* `listed_attribute_detected_in_tag` / `_in_element` — every **listed** attribute of the always-dangerous class
  (`datasrc`, `dataformatas`, `xmlns`, … class 1) or of the style class (`style`, `filter`), in any letter case, with any value;
* `script_url_detected_*` — a URL-bearing attribute with a quoted or (`_unquoted*`) bare value that, after leading control
  bytes, spells a script-capable scheme through any mix of encodings (C19's `Enc`) is reported.

* `doctype_detected`, `pi_detected`, `decl_detected`, `comment_detected`, `percent_detected` — **the markup
  forms with arbitrary content**: after any `<`-free text, `<!doctype` in any letter case followed by anything;
  and a `<? … >`, `<! … >`, `<!-- … -->`, `<% … %>` construct (closed, or running to the end of input) whose
  text carries one of the markers the classifier looks for — a back-tick anywhere, or `[if`, `xml`, `import`,
  `entity` (any case, NULs tolerated in the last two) at its start — whatever follows the construct.

* `comment_detected_dashes`, `comment_detected_general` — `comment_detected` asks for a dash-free body; here the body may contain dashes
  (any text free of `>`, or more generally any text in which no terminator `-` NUL* (`-`|`!`) `>` starts), and the
  terminator may be `-->`, `-!>` or `--!>`.

NUL bytes inside names: C11's `nul_in_name` (every name token, every context). -/
namespace LibInj.Properties.C04
open LibInj LibInj.Xss LibInj.H5

def lowerB (s : Bytes) : Bytes := s.map lowerAscii
def altB : Bytes → Bytes
  | [] => []
  | [c] => [c]
  | c :: d :: t => c :: lowerAscii d :: altB t
def nulB : Bytes → Bytes
  | [] => []
  | c :: t => c :: 0 :: t

/-- a name as listed, in lower case, with every second byte in lower case, and in lower case with a NUL after the first byte -/
def spellings (s : Bytes) : List Bytes := [s, lowerB s, altB s, nulB (lowerB s)]

theorem caseEq_lowerB (s : Bytes) : CaseEq (lowerB s) s := caseEq_L s

theorem caseEq_altB : ∀ s : Bytes, CaseEq (altB s) s
  | [] => rfl
  | [_] => rfl
  | _ :: d :: t => caseEq_cons.mpr ⟨rfl, caseEq_cons.mpr ⟨lower_idem d, caseEq_altB t⟩⟩

/-- a classifier that ignores letter case and NUL bytes gives every spelling of a name the verdict of the name -/
theorem spellings_invariant {α : Type} (f : Bytes → α) (hcase : ∀ s s', CaseEq s s' → f s = f s')
    (hnul : ∀ a b, f (a ++ 0 :: b) = f (a ++ b)) (s s' : Bytes) (h : s' ∈ spellings s) : f s' = f s := by
  simp only [spellings, List.mem_cons, List.mem_nil_iff, or_false] at h
  rcases h with rfl | rfl | rfl | rfl
  · rfl
  · exact hcase _ _ (caseEq_lowerB s)
  · exact hcase _ _ (caseEq_altB s)
  · rw [← hcase _ _ (caseEq_lowerB s)]
    cases lowerB s with
    | nil => rfl
    | cons c t => exact hnul [c] t

/-- table fact: every listed element is classified as dangerous as it is listed -/
theorem listed_tag_black : Gen.blackTags.all isBlackTag = true := by decide +kernel

theorem black_tags_all_spellings :
    Gen.blackTags.all (fun t => (spellings t).all isBlackTag) = true := by
  simp only [List.all_eq_true]
  intro t ht s hs
  rw [spellings_invariant isBlackTag isBlackTag_caseEq isBlackTag_nul t s hs]
  exact List.all_eq_true.mp listed_tag_black t ht

/-- names (`f e`) that the classifier rates with the class listed for them are so rated in every spelling -/
theorem attr_all_spellings (L : List (Bytes × Nat)) (f : Bytes × Nat → Bytes) (h : ∀ e ∈ L, isBlackAttr (f e) = e.2 ∧ e.2 ≠ 0) :
    L.all (fun e => (spellings (f e)).all (fun s => isBlackAttr s == e.2) && e.2 != 0) = true := by
  simp only [List.all_eq_true, Bool.and_eq_true, beq_iff_eq, bne_iff_ne]
  exact fun e he => ⟨fun s hs => by
    rw [spellings_invariant isBlackAttr isBlackAttr_caseEq isBlackAttr_nul _ s hs, (h e he).1], (h e he).2⟩

/-- table fact: every listed attribute is classified with its listed class, none of which is 0 -/
theorem listed_attr_class : Gen.blacks.all (fun a => isBlackAttr a.1 == a.2 && a.2 != 0) = true := by decide +kernel

theorem black_attrs_all_spellings :
    Gen.blacks.all (fun a => (spellings a.1).all (fun s => isBlackAttr s == a.2) && a.2 != 0) = true :=
  attr_all_spellings _ (·.1) fun a ha => by simpa using List.all_eq_true.mp listed_attr_class a ha

/-- a key of an association list whose entries all carry `t` is looked up as `t` -/
theorem lookupTy_const (t : Nat) : ∀ (l : List (Bytes × Nat)) (e : Bytes × Nat), e ∈ l → (∀ e' ∈ l, e'.2 = t) →
    lookupTy l e.1 = some t
  | (n, t') :: r, e, he, hall => by
    unfold lookupTy
    split
    · exact congrArg some (hall (n, t') List.mem_cons_self)
    · rename_i hne
      rcases List.mem_cons.mp he with rfl | h'
      · simp at hne
      · exact lookupTy_const t r e h' (fun e' h => hall e' (List.mem_cons_of_mem _ h))

/-- table fact: every listed event has class 1, and `ON` + its name (at least 5 bytes) is what the classifier
normalises it to: upper case, free of NULs -/
theorem events_canonical : Gen.blackEvents.all (fun e =>
    e.2 == 1 && goUpper (stripNul (ON ++ e.1)) == ON ++ e.1 && decide (3 ≤ e.1.length)) = true := by decide +kernel

theorem event_facts (e : Bytes × Nat) (he : e ∈ Gen.blackEvents) :
    e.2 = 1 ∧ goUpper (stripNul (ON ++ e.1)) = ON ++ e.1 ∧ 3 ≤ e.1.length := by
  simpa [and_assoc] using List.all_eq_true.mp events_canonical e he

/-- `on<event>` as listed has class 1: the look-up finds the event, and every entry of the list carries 1 -/
theorem listed_event_class (e : Bytes × Nat) (he : e ∈ Gen.blackEvents) : isBlackAttr (ON ++ e.1) = 1 := by
  obtain ⟨_, hu, hl⟩ := event_facts e he
  have h2 : ¬ (ON ++ e.1).length < 2 := by simp [ON]
  have h5 : (ON ++ e.1).length ≥ 5 := by simp [ON]; omega
  have hlook : lookupTy Gen.blackEvents e.1 = some 1 := lookupTy_const 1 _ e he (fun e' he' => (event_facts e' he').1)
  have hr : (if (ON ++ e.1 == XMLNS || ON ++ e.1 == XLINK) = true then some 1
      else if ((ON ++ e.1).take 2 == ON) = true then lookupTy Gen.blackEvents ((ON ++ e.1).drop 2) else none) = some 1 := by
    split
    · rfl
    · simp only [ON, List.cons_append, List.nil_append, List.take_succ_cons, List.take_zero, List.drop_succ_cons, List.drop_zero,
        beq_self_eq_true, ↓reduceIte, hlook]
  unfold isBlackAttr
  simp only [hu, h2, h5, ↓reduceIte, hr]

theorem black_events_all_spellings :
    Gen.blackEvents.all (fun e => (spellings (ON ++ e.1)).all (fun s => isBlackAttr s == e.2) && e.2 != 0) = true :=
  attr_all_spellings _ (fun e => ON ++ e.1) fun e he => by
    rw [listed_event_class e he, (event_facts e he).1]; exact ⟨rfl, by decide⟩

def javascript : Bytes := [106,97,118,97,115,99,114,105,112,116,58]
def vbscript : Bytes := [118,98,115,99,114,105,112,116,58]
def dataS : Bytes := [100,97,116,97,58]
def viewSource : Bytes := [118,105,101,119,45,115,111,117,114,99,101,58]

theorem schemes_recognised :
    [javascript, vbscript, dataS, viewSource].all (fun s =>
      isOkTrue (isBlackURL s) && isOkTrue (isBlackURL ([1, 32, 0x7f, 0xe9] ++ s)) &&
      isOkTrue (isBlackURL (s.take 2 ++ [0, 10] ++ s.drop 2)) &&
      isOkTrue (isBlackURL ([38,35,49,48,54,59] ++ s.drop 1) ) == (s.head? == some 106)) = true := by
  decide +kernel

/-- `<!DOCTYPE x`, `<!ENTITY x>`, `<?import x>`, `<?xml x>`, `<!--[if x]>`, a back-tick inside `<!-- -->` and `<% %>` -/
def markupForms : List Bytes :=
  [[60,33,68,79,67,84,89,80,69,32,120], [60,33,69,78,84,73,84,89,32,120,62], [60,63,105,109,112,111,114,116,32,120,62],
   [60,63,120,109,108,32,120,62], [60,33,45,45,91,105,102,32,120,93,62], [60,33,45,45,96,45,45,62], [60,37,96,37,62]]

theorem markup_forms_detected : markupForms.all (fun s => isOkTrue (isXSS s)) = true := by decide +kernel

/-- **DOCTYPE** in any letter case, after any `<`-free text, followed by anything -/
theorem doctype_detected (p w rest : Bytes) (hp : (60 : UInt8) ∉ p) (hw : w.length = 7) (hlow : goLowerAscii w = doctypeLower) :
    isXSSCtx (p ++ 60 :: 33 :: (w ++ rest)) 0 = .ok true := Xss.doctype_detected p w rest hp hw hlow

/-- **processing instruction** `<? T >` / `<? T` to the end of input, `T` free of `>` and carrying a marker -/
theorem pi_detected (p T tail : Bytes) (hp : (60 : UInt8) ∉ p) (hT : (62 : UInt8) ∉ T) (htail : tail = [] ∨ ∃ r, tail = 62 :: r)
    (hm : Marker T) : isXSSCtx (p ++ 60 :: 63 :: (T ++ tail)) 0 = .ok true := Xss.pi_detected p T tail hp hT htail hm

/-- **declaration** `<! T >` that is not a doctype, CDATA section or comment (`<!ENTITY …`) -/
theorem decl_detected (p T' tail : Bytes) (c : UInt8) (hp : (60 : UInt8) ∉ p) (hT : (62 : UInt8) ∉ (c :: T'))
    (htail : tail = [] ∨ ∃ r, tail = 62 :: r) (h1 : lowerAscii c ≠ 100) (h2 : c ≠ 91) (h3 : c ≠ 45)
    (hm : Marker (c :: T')) : isXSSCtx (p ++ 60 :: 33 :: ((c :: T') ++ tail)) 0 = .ok true :=
  Xss.decl_detected p T' tail c hp hT htail h1 h2 h3 hm

/-- **comment** `<!-- T -->` (IE conditional comment, back-tick), `T` free of dashes -/
theorem comment_detected (p T tail : Bytes) (hp : (60 : UInt8) ∉ p) (hT : (45 : UInt8) ∉ T)
    (htail : tail = [] ∨ ∃ r, tail = 45 :: 45 :: 62 :: r) (hm : Marker T) :
    isXSSCtx (p ++ 60 :: 33 :: 45 :: 45 :: (T ++ tail)) 0 = .ok true := Xss.comment_detected p T tail hp hT htail hm

/-- **comment with dashes in its body**: `T` free of `>` (dashes allowed), followed by end of input, `-->` or `-!>` (hence
also `--!>`: the body then ends in a dash) -/
theorem comment_detected_dashes (p T tail : Bytes) (hp : (60 : UInt8) ∉ p) (hT : (62 : UInt8) ∉ T)
    (htail : tail = [] ∨ ∃ e r, (e = 45 ∨ e = 33) ∧ tail = 45 :: e :: 62 :: r) (hm : Marker T) :
    isXSSCtx (p ++ 60 :: 33 :: 45 :: 45 :: (T ++ tail)) 0 = .ok true := Xss.comment_detected_dashes p T tail hp hT htail hm

/-- **comment, general form**: any body in which no terminator `-` NUL* (`-`|`!`) `>` starts (the body is exactly the
text before the first terminator) -/
theorem comment_detected_general (p T tail : Bytes) (hp : (60 : UInt8) ∉ p)
    (hT : ∀ j n, j < T.length → ¬ ComEnd (T ++ tail) j n)
    (htail : tail = [] ∨ ∃ e r, (e = 45 ∨ e = 33) ∧ tail = 45 :: e :: 62 :: r) (hm : Marker T) :
    isXSSCtx (p ++ 60 :: 33 :: 45 :: 45 :: (T ++ tail)) 0 = .ok true := Xss.comment_detected_general p T tail hp hT htail hm

/-- non-vacuity: `x<!--[if IE-6]-a--!>y` — body `[if IE-6]-a-` (dashes, no `>`), terminator `-!>` -/
example : isXSSCtx ([120] ++ 60 :: 33 :: 45 :: 45 :: ([91, 105, 102, 32, 73, 69, 45, 54, 93, 45, 97, 45] ++ [45, 33, 62, 121])) 0 = .ok true :=
  comment_detected_dashes [120] [91, 105, 102, 32, 73, 69, 45, 54, 93, 45, 97, 45] [45, 33, 62, 121] (by decide) (by decide)
    (Or.inr ⟨33, [121], Or.inr rfl, rfl⟩) (Or.inr (Or.inl ⟨105, 102, 32, _, rfl, by decide⟩))

/-- **`<% T %>`**, `T` free of `%` -/
theorem percent_detected (p T tail : Bytes) (hp : (60 : UInt8) ∉ p) (hT : (37 : UInt8) ∉ T)
    (htail : tail = [] ∨ ∃ r, tail = 37 :: 62 :: r) (hm : Marker T) :
    isXSSCtx (p ++ 60 :: 37 :: (T ++ tail)) 0 = .ok true := Xss.percent_detected p T tail hp hT htail hm

/-- non-vacuity: `[if IE]>` carries the IE-conditional marker, `EnTiTy x` the entity marker -/
example : Marker [91, 105, 102, 32, 73, 69, 93, 62] ∧ Marker [69, 110, 84, 105, 84, 121, 32, 120] := by
  refine ⟨Or.inr (Or.inl ⟨105, 102, 32, _, rfl, by decide⟩), Or.inr (Or.inr (Or.inr ⟨69, 110, 84, 105, 84, 121, _, rfl, Or.inr (by decide)⟩))⟩

theorem isXSS_of_ctx0 (s : Bytes) (h : isXSSCtx s 0 = .ok true) : isXSS s = .ok true := by
  unfold isXSS; simp [h, bind, Except.bind, pure, Except.pure]
theorem isXSS_of_ctx (s : Bytes) (c : Nat) (hc : c < 5) (h : isXSSCtx s c = .ok true) : isXSS s = .ok true := by
  obtain ⟨b0, h0⟩ := isXSSCtx_total s 0
  obtain ⟨b1, h1⟩ := isXSSCtx_total s 1
  obtain ⟨b2, h2⟩ := isXSSCtx_total s 2
  obtain ⟨b3, h3⟩ := isXSSCtx_total s 3
  obtain ⟨b4, h4⟩ := isXSSCtx_total s 4
  unfold isXSS
  simp only [h0, h1, h2, h3, h4, bind, Except.bind, pure, Except.pure]
  match c, hc with
  | 0, _ => rw [h] at h0; cases h0; simp
  | 1, _ => rw [h] at h1; cases h1; cases b0 <;> simp
  | 2, _ => rw [h] at h2; cases h2; cases b0 <;> cases b1 <;> simp
  | 3, _ => rw [h] at h3; cases h3; cases b0 <;> cases b1 <;> cases b2 <;> simp
  | 4, _ => rw [h] at h4; cases h4; cases b0 <;> cases b1 <;> cases b2 <;> cases b3 <;> simp

/-- **C04, elements.** Any case re-spelling of a listed element, after any `<`-free text and before
any text, is reported as XSS. -/
theorem black_element_detected (t name p rest : Bytes) (ht : t ∈ Gen.blackTags) (hcase : CaseEq name t)
    (hp : (60 : UInt8) ∉ p) (hn : NameAt name rest) : isXSS (p ++ 60 :: (name ++ rest)) = .ok true := by
  apply isXSS_of_ctx0
  apply black_tag_in_content p name rest hp hn
  rw [isBlackTag_caseEq name t hcase]; exact List.all_eq_true.mp listed_tag_black t ht

theorem listed_event_black (e : Bytes × Nat) (he : e ∈ Gen.blackEvents) (name : Bytes) (hcase : CaseEq name (ON ++ e.1)) :
    isBlackAttr name = 1 := by
  rw [isBlackAttr_caseEq name _ hcase, listed_event_class e he]

/-- **C04, event handlers** in the tag context (`x onerror=…`, `<a x onerror=…`) -/
theorem event_handler_detected_in_tag (e : Bytes × Nat) (he : e ∈ Gen.blackEvents) (name ws ws2 rest : Bytes) (c : UInt8)
    (hcase : CaseEq name (ON ++ e.1)) (hws : ws.all isSkipWhite = true) (hws2 : ws2.all isSkipWhite = true)
    (hc : isSkipWhite c = false) (hn : AttrAt name) : isXSS (ws ++ name ++ 61 :: (ws2 ++ c :: rest)) = .ok true :=
  isXSS_of_ctx _ 1 (by omega) (attr_in_tag_context ws name _ hws hn (.any ws2 rest c (Or.inl (listed_event_black e he name hcase)) hws2 hc))

/-- … on any element in element content -/
theorem event_handler_detected_in_element (e : Bytes × Nat) (he : e ∈ Gen.blackEvents) (p tag name ws ws2 rest : Bytes) (w c : UInt8)
    (hcase : CaseEq name (ON ++ e.1)) (hp : (60 : UInt8) ∉ p)
    (hn : NameAt tag (w :: (ws ++ name ++ 61 :: (ws2 ++ c :: rest)))) (hw : isH5White w = true)
    (hws : ws.all isSkipWhite = true) (hws2 : ws2.all isSkipWhite = true) (hc : isSkipWhite c = false) (ha : AttrAt name) :
    isXSS (p ++ 60 :: (tag ++ w :: (ws ++ name ++ 61 :: (ws2 ++ c :: rest)))) = .ok true :=
  isXSS_of_ctx0 _ (attr_in_element p tag ws name _ w hp hn (Or.inl hw) hws ha (.any ws2 rest c (Or.inl (listed_event_black e he name hcase)) hws2 hc))

/-- … after breaking out of a quoted attribute value (`'`, `"`, back-tick) -/
theorem event_handler_detected_after_breakout (e : Bytes × Nat) (he : e ∈ Gen.blackEvents) (q : UInt8)
    (hq : q = 39 ∨ q = 34 ∨ q = 96) (u name ws ws2 rest : Bytes) (w c : UInt8) (hcase : CaseEq name (ON ++ e.1))
    (hu : q ∉ u) (hw : isH5White w = true) (hws : ws.all isSkipWhite = true) (hws2 : ws2.all isSkipWhite = true)
    (hc : isSkipWhite c = false) (hn : AttrAt name) :
    isXSS (u ++ q :: w :: (ws ++ name ++ 61 :: (ws2 ++ c :: rest))) = .ok true := by
  have hb : BlackAttr name (ws2 ++ c :: rest) := .any ws2 rest c (Or.inl (listed_event_black e he name hcase)) hws2 hc
  rcases hq with rfl | rfl | rfl
  · exact isXSS_of_ctx _ 2 (by omega) (attr_after_breakout 2 39 (Or.inl ⟨rfl, rfl⟩) u ws name _ w hu hw hws hn hb)
  · exact isXSS_of_ctx _ 3 (by omega) (attr_after_breakout 3 34 (Or.inr (Or.inl ⟨rfl, rfl⟩)) u ws name _ w hu hw hws hn hb)
  · exact isXSS_of_ctx _ 4 (by omega) (attr_after_breakout 4 96 (Or.inr (Or.inr ⟨rfl, rfl⟩)) u ws name _ w hu hw hws hn hb)

/-- **C04, `style`-class attributes** (the classifier's class 3), same three situations; here in the tag context -/
theorem style_detected_in_tag (name ws ws2 rest : Bytes) (c : UInt8) (h3 : isBlackAttr name = 3)
    (hws : ws.all isSkipWhite = true) (hws2 : ws2.all isSkipWhite = true) (hc : isSkipWhite c = false) (hn : AttrAt name) :
    isXSS (ws ++ name ++ 61 :: (ws2 ++ c :: rest)) = .ok true :=
  isXSS_of_ctx _ 1 (by omega) (attr_in_tag_context ws name _ hws hn (.any ws2 rest c (Or.inr h3) hws2 hc))

/-- **C04 with C19, script URLs**: a URL-bearing attribute (class 2) on any element in element
content whose quoted value, after leading control bytes, spells a script-capable scheme through any
mix of encodings -/
theorem script_url_detected_in_element (p tag name ws ws2 junk enc rest sc : Bytes) (w q : UInt8)
    (hq : q = 34 ∨ q = 39 ∨ q = 96) (hp : (60 : UInt8) ∉ p)
    (hn : NameAt tag (w :: (ws ++ name ++ 61 :: (ws2 ++ q :: ((junk ++ enc) ++ q :: rest))))) (hw : isH5White w = true)
    (hws : ws.all isSkipWhite = true) (hws2 : ws2.all isSkipWhite = true) (hu : q ∉ junk ++ enc) (ha : AttrAt name)
    (h2 : isBlackAttr name = 2) (hj : ∀ c ∈ junk, urlJunk c = true) (hsc : sc ∈ urls) (henc : Enc sc enc) :
    isXSS (p ++ 60 :: (tag ++ w :: (ws ++ name ++ 61 :: (ws2 ++ q :: ((junk ++ enc) ++ q :: rest))))) = .ok true :=
  isXSS_of_ctx0 _ (attr_in_element p tag ws name _ w hp hn (Or.inl hw) hws ha
    (.url _ _ h2 (.quoted ws2 (junk ++ enc) rest q hq hu hws2) (scheme_enc_detected junk enc sc hj hsc henc)))

/-- **C04, `/` as separator**: an event handler right after `<tag/` -/
theorem event_handler_detected_after_slash (e : Bytes × Nat) (he : e ∈ Gen.blackEvents) (p tag name ws ws2 rest : Bytes) (c : UInt8)
    (hcase : CaseEq name (ON ++ e.1)) (hp : (60 : UInt8) ∉ p)
    (hn : NameAt tag (47 :: (ws ++ name ++ 61 :: (ws2 ++ c :: rest))))
    (hws : ws.all isSkipWhite = true) (hws2 : ws2.all isSkipWhite = true) (hc : isSkipWhite c = false) (ha : AttrAt name) :
    isXSS (p ++ 60 :: (tag ++ 47 :: (ws ++ name ++ 61 :: (ws2 ++ c :: rest)))) = .ok true :=
  isXSS_of_ctx0 _ (attr_in_element p tag ws name _ 47 hp hn (Or.inr rfl) hws ha (.any ws2 rest c (Or.inl (listed_event_black e he name hcase)) hws2 hc))

/-- … a script URL in a quoted value right after `<tag/` -/
theorem script_url_detected_after_slash (p tag name ws ws2 junk enc rest sc : Bytes) (q : UInt8)
    (hq : q = 34 ∨ q = 39 ∨ q = 96) (hp : (60 : UInt8) ∉ p)
    (hn : NameAt tag (47 :: (ws ++ name ++ 61 :: (ws2 ++ q :: ((junk ++ enc) ++ q :: rest)))))
    (hws : ws.all isSkipWhite = true) (hws2 : ws2.all isSkipWhite = true) (hu : q ∉ junk ++ enc) (ha : AttrAt name)
    (h2 : isBlackAttr name = 2) (hj : ∀ c ∈ junk, urlJunk c = true) (hsc : sc ∈ urls) (henc : Enc sc enc) :
    isXSS (p ++ 60 :: (tag ++ 47 :: (ws ++ name ++ 61 :: (ws2 ++ q :: ((junk ++ enc) ++ q :: rest))))) = .ok true :=
  isXSS_of_ctx0 _ (attr_in_element p tag ws name _ 47 hp hn (Or.inr rfl) hws ha
    (.url _ _ h2 (.quoted ws2 (junk ++ enc) rest q hq hu hws2) (scheme_enc_detected junk enc sc hj hsc henc)))

/-- **C04, any quoting of the value**: a script URL in an *unquoted* value (ended by white space, `>` or
the end of the input), on any element in element content -/
theorem script_url_detected_unquoted (p tag name ws ws2 junk enc rest sc : Bytes) (w : UInt8) (hp : (60 : UInt8) ∉ p)
    (hn : NameAt tag (w :: (ws ++ name ++ 61 :: (ws2 ++ (junk ++ enc) ++ rest)))) (hw : isH5White w = true)
    (hws : ws.all isSkipWhite = true) (hws2 : ws2.all isSkipWhite = true) (hv : ValAt (junk ++ enc) rest) (ha : AttrAt name)
    (h2 : isBlackAttr name = 2) (hj : ∀ c ∈ junk, urlJunk c = true) (hsc : sc ∈ urls) (henc : Enc sc enc) :
    isXSS (p ++ 60 :: (tag ++ w :: (ws ++ name ++ 61 :: (ws2 ++ (junk ++ enc) ++ rest)))) = .ok true :=
  isXSS_of_ctx0 _ (attr_in_element p tag ws name _ w hp hn (Or.inl hw) hws ha
    (.url _ _ h2 (.bare ws2 (junk ++ enc) rest hws2 hv) (scheme_enc_detected junk enc sc hj hsc henc)))

/-- … and in the tag context -/
theorem script_url_detected_unquoted_in_tag (name ws ws2 junk enc rest sc : Bytes)
    (hws : ws.all isSkipWhite = true) (hws2 : ws2.all isSkipWhite = true) (hv : ValAt (junk ++ enc) rest) (ha : AttrAt name)
    (h2 : isBlackAttr name = 2) (hj : ∀ c ∈ junk, urlJunk c = true) (hsc : sc ∈ urls) (henc : Enc sc enc) :
    isXSS (ws ++ name ++ 61 :: (ws2 ++ (junk ++ enc) ++ rest)) = .ok true :=
  isXSS_of_ctx _ 1 (by omega) (attr_in_tag_context ws name _ hws ha
    (.url _ _ h2 (.bare ws2 (junk ++ enc) rest hws2 hv) (scheme_enc_detected junk enc sc hj hsc henc)))

/-- **C04 with C13, contexts compose**: whatever is detected in the tag context is detected in element
content when it follows `<a ` after any `<`-free text -/
theorem tag_context_lifts_to_content (v p : Bytes) (hp : (60 : UInt8) ∉ p) (h : isXSSCtx v 1 = .ok true) :
    isXSS (p ++ ([60, 97, 32] ++ v)) = .ok true := by
  apply isXSS_of_ctx0
  rw [data_prefix _ p hp, embed_ctx1]
  exact h

/-- … and whatever is detected inside a `'`, `"` or back-tick value is detected when it follows `<a b=` + that quote -/
theorem value_context_lifts_to_content (v p : Bytes) (c : Nat) (q : UInt8) (hp : (60 : UInt8) ∉ p)
    (hc : c = 2 ∧ q = 39 ∨ c = 3 ∧ q = 34 ∨ c = 4 ∧ q = 96) (h : isXSSCtx v c = .ok true) :
    isXSS (p ++ ([60, 97, 32, 98, 61, q] ++ v)) = .ok true := by
  apply isXSS_of_ctx0
  rw [data_prefix _ p hp]
  rcases hc with ⟨rfl, rfl⟩ | ⟨rfl, rfl⟩ | ⟨rfl, rfl⟩
  · rw [embed_quote 39 2 (Or.inl rfl) rfl]; exact h
  · rw [embed_quote 34 3 (Or.inr (Or.inl rfl)) rfl]; exact h
  · rw [embed_quote 96 4 (Or.inr (Or.inr rfl)) rfl]; exact h

/-- non-vacuity of the unquoted form: `<a href=javascript:x>` -/
example : isOkTrue (isXSS (bs "<a href=javascript:x>")) = true := by decide +kernel

/-- non-vacuity: `href` is a URL-bearing attribute, `onerror` an event handler, `style` class 3 -/
example : isBlackAttr [104, 114, 101, 102] = 2 ∧ isBlackAttr [111, 110, 101, 114, 114, 111, 114] = 1 ∧
    isBlackAttr [115, 116, 121, 108, 101] = 3 := by decide +kernel

example : isBlackTag [115, 0, 99, 114, 105, 112, 116] = true := by decide +kernel

/-- a listed attribute is classified with its listed class, in any letter case -/
theorem listed_attr_black (a : Bytes × Nat) (ha : a ∈ Gen.blacks) (name : Bytes) (hcase : CaseEq name a.1) :
    isBlackAttr name = a.2 := by
  have h := List.all_eq_true.mp listed_attr_class a ha
  simp only [Bool.and_eq_true, beq_iff_eq] at h
  rw [isBlackAttr_caseEq name _ hcase, h.1]

/-- **C04, listed attributes of the "always dangerous" class** (`datasrc`, `dataformatas`, `xmlns`, …: class 1) and of the
**style class** (`style`, `filter`: class 3), in any letter case, with any value: in the tag context -/
theorem listed_attribute_detected_in_tag (a : Bytes × Nat) (ha : a ∈ Gen.blacks) (hcl : a.2 = 1 ∨ a.2 = 3)
    (name ws ws2 rest : Bytes) (c : UInt8) (hcase : CaseEq name a.1) (hws : ws.all isSkipWhite = true)
    (hws2 : ws2.all isSkipWhite = true) (hc : isSkipWhite c = false) (hn : AttrAt name) :
    isXSS (ws ++ name ++ 61 :: (ws2 ++ c :: rest)) = .ok true :=
  isXSS_of_ctx _ 1 (by omega) (attr_in_tag_context ws name _ hws hn
    (.any ws2 rest c (by rw [listed_attr_black a ha name hcase]; exact hcl) hws2 hc))

/-- … on any element in element content -/
theorem listed_attribute_detected_in_element (a : Bytes × Nat) (ha : a ∈ Gen.blacks) (hcl : a.2 = 1 ∨ a.2 = 3)
    (p tag name ws ws2 rest : Bytes) (w c : UInt8) (hcase : CaseEq name a.1) (hp : (60 : UInt8) ∉ p)
    (hn : NameAt tag (w :: (ws ++ name ++ 61 :: (ws2 ++ c :: rest)))) (hw : isH5White w = true)
    (hws : ws.all isSkipWhite = true) (hws2 : ws2.all isSkipWhite = true) (hc : isSkipWhite c = false) (hat : AttrAt name) :
    isXSS (p ++ 60 :: (tag ++ w :: (ws ++ name ++ 61 :: (ws2 ++ c :: rest)))) = .ok true :=
  isXSS_of_ctx0 _ (attr_in_element p tag ws name _ w hp hn (Or.inl hw) hws hat
    (.any ws2 rest c (by rw [listed_attr_black a ha name hcase]; exact hcl) hws2 hc))

/-- non-vacuity: `DATASRC` is listed with class 1, `STYLE` with class 3 -/
example : (([68,65,84,65,83,82,67], 1) : Bytes × Nat) ∈ Gen.blacks ∧ (([83,84,89,76,69], 3) : Bytes × Nat) ∈ Gen.blacks := by
  decide +kernel

end LibInj.Properties.C04
