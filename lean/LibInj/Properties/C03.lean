import LibInj.Proofs.Tables
import LibInj.Spec.GrammarFps
import LibInj.Sqli.Check
import LibInj.Proofs.GrammarBase
import LibInj.Proofs.GrammarEval
/-! # C03 — canonical SQL injection families are detected in every quoting context

The grammar `L` (skeletons × context prefixes × separators × case assignments × tails) is data of
the specification (`harness/oracle_sql.go: c03Skeletons, c03Prefixes, c03Seps, c03Tails`); the 95
fingerprints its exhaustive part produces are committed in `Spec/GrammarFps.lean`.

Proved (class E, against the table regenerated from /repo on every build): every one of those
fingerprints is a blacklist entry (`grammar_fingerprints_blacklisted`) — a deleted or retyped
fingerprint breaks this theorem without an input having to hit it — and a few members of the grammar
are evaluated end to end on the model by the kernel (`grammar_samples_detected`).

**Proved for the enumerated grammar in every letter case (`grammar_detected_any_case`):** for each of
the 51 skeletons × 6 context prefixes, with every one of the 12 tails (words separated by one space) and
with every one of the 13 separators (no tail) — 7 650 lower-case members, each evaluated end to end on
the model by the kernel (`Proofs/GrammarEval`; plus 5 parenthesis-closing skeletons × 6 prefixes × 25 and
the 74-entry comment-truncation table, `paren_and_truncation_detected`) — *every* re-assignment of ASCII letter case
of the member is reported as SQLi. The case dimension is closed universally by C10 (`isSQLi` commutes
with lower-casing outside the exempt positions, and no member has one because the grammar's alphabet lacks
`\`, `$`, `q` and `Q`), not by enumeration. The grammar lists live in `Spec/SqliGrammar.lean` and `Spec/SqliGrammar2.lean` and are compared with the harness's
lists on every run.

Not a theorem (`sqli_grammar_detected_statement`): arbitrary *runs* of SQL whitespace bytes and
inline comments as separators, and tail × separator combinations beyond the enumerated ones. Those
are enumerated exhaustively to the bound (and sampled beyond) on the implementation and compared with
the model on the same inputs. -/
namespace LibInj.Properties.C03
open LibInj LibInj.Tables LibInj.Sqli

/-- every fingerprint the grammar produces is a key of the regenerated table with class `F` -/
theorem grammar_fingerprints_blacklisted_merge : subMerge Spec.grammarFingerprints Gen.keywords = true := by
  decide +kernel

theorem grammar_fingerprints_blacklisted :
    ∀ e ∈ Spec.grammarFingerprints, lookupKw e.1 e.2.1 = some 70 ∧ e.2.2 = 70 := by
  intro e he
  have hm := subMerge_sound _ _ grammar_fingerprints_blacklisted_merge e he
  have hv : e.2.2 = 70 := by
    have : Spec.grammarFingerprints.all (fun e => Nat.beq e.2.2 70) = true := by decide +kernel
    exact Nat.eq_of_beq_eq_true (List.all_eq_true.mp this e he)
  refine ⟨?_, hv⟩
  have := lookupIn_of_mem _ keywords_strictSorted e.1 e.2.1 e.2.2 hm
  rw [hv] at this; exact this

def isTrue1 : M (Bool × Bytes) → Bool | .ok (true, _) => true | _ => false

/-- `1 or 1=1`, `x' OR 'a'='a`, `1 union select 1 --`, `1;drop table t`, `1 AnD sleep(5)#` with VT/NUL separators -/
def samples : List Bytes :=
  [[49,32,111,114,32,49,61,49], [120,39,32,79,82,32,39,97,39,61,39,97],
   [49,32,117,110,105,111,110,32,115,101,108,101,99,116,32,49,32,45,45],
   [49,59,100,114,111,112,32,116,97,98,108,101,32,116],
   [49,11,65,110,68,0,115,108,101,101,112,40,53,41,35]]

theorem grammar_samples_detected : samples.all (fun s => isTrue1 (isSQLi s)) = true := by decide +kernel

open Spec.SqliGrammar in
/-- the enumerated grammar, any letter case -/
def grammar_detected_any_case_statement : Prop :=
  ∀ sk ∈ skeletons, ∀ p ∈ prefixes,
    (∀ t ∈ tails, ∀ s', CaseEq (render p sk [32] t) s' → ∃ fp, isSQLi s' = .ok (true, fp)) ∧
    (∀ sp ∈ seps, ∀ s', CaseEq (render p sk sp []) s' → ∃ fp, isSQLi s' = .ok (true, fp))

open Spec.SqliGrammar in
/-- **C03 on the enumerated grammar, universally in the case dimension.** -/
theorem grammar_detected_any_case : grammar_detected_any_case_statement := by
  refine forall_mem_of_index skeletons [] _ fun k hk => ?_
  have hsk : skel k ∈ skeletons := by
    unfold skel; rw [List.getElem?_eq_getElem hk]; exact List.getElem_mem hk
  exact skeleton_detected prefixes (skel k) (all_skeletons_ok k (skeletons_length ▸ hk))
    (fun p hp => by simp [grammarParts, hp])
    (fun w hw => by simp only [grammarParts, List.mem_append, List.mem_flatten]; exact Or.inl (Or.inr ⟨_, hsk, hw⟩))

open Spec.SqliGrammar in
/-- the parenthesis-closing skeletons (`1) or (1=1` …) and the comment-truncation table, any letter case -/
def paren_and_truncation_statement : Prop :=
  (∀ sk ∈ parenSkeletons, ∀ p ∈ parenPrefixes,
    (∀ t ∈ tails, ∀ s', CaseEq (render p sk [32] t) s' → ∃ fp, isSQLi s' = .ok (true, fp)) ∧
    (∀ sp ∈ seps, ∀ s', CaseEq (render p sk sp []) s' → ∃ fp, isSQLi s' = .ok (true, fp))) ∧
  (∀ a ∈ truncations, ∀ s', CaseEq a s' → ∃ fp, isSQLi s' = .ok (true, fp))

open Spec.SqliGrammar in
theorem paren_and_truncation_detected : paren_and_truncation_statement := by
  constructor
  · refine forall_mem_of_index parenSkeletons [] _ fun k hk => ?_
    have hsk : pskel k ∈ parenSkeletons := by
      unfold pskel; rw [List.getElem?_eq_getElem hk]; exact List.getElem_mem hk
    exact skeleton_detected parenPrefixes (pskel k) (all_paren_skeletons_ok k (paren_skeletons_length ▸ hk))
      (fun p hp => by simp [grammarParts, hp])
      (fun w hw => by simp only [grammarParts, List.mem_append, List.mem_flatten]; exact Or.inr ⟨_, hsk, hw⟩)
  · intro a ha s' hc
    exact memberOK_any_case a s' (memberOK_of_fires a (List.all_eq_true.mp GrammarEval.truncations a ha)
      (grammar_plain a (by simp [grammarParts, ha]))) hc

/-- non-vacuity: `1) UnIoN/**/SeLeCt/**/1,2,3` is a case variant of a member -/
example : ∃ fp, isSQLi [49,41,32,85,110,73,111,78,47,42,42,47,83,101,76,101,67,116,47,42,42,47,49,44,50,44,51] = .ok (true, fp) := by
  refine (grammar_detected_any_case [[117,110,105,111,110],[115,101,108,101,99,116],[49,44,50,44,51]] (by decide)
    [49,41,32] (by decide)).2 [47,42,42,47] (by decide) _ ?_
  show List.map lowerAscii _ = List.map lowerAscii _
  decide

def sqli_grammar_detected_statement : Prop :=
  ∀ (ws1 ws2 ws3 : Bytes), ws1 ≠ [] → ws2 ≠ [] → (∀ c ∈ ws1 ++ ws2 ++ ws3, isWhite c = true) →
    ∃ fp, isSQLi ([49] ++ ws1 ++ [111, 114] ++ ws2 ++ [49] ++ ws3 ++ [61, 49]) = .ok (true, fp)

example : Spec.grammarFingerprints.length = 95 := by decide

end LibInj.Properties.C03
