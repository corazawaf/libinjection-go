import LibInj.Xss.IsXSS
import LibInj.Proofs.XssShift
/-! # C13 — XSS contexts mean what they say; surrounding text cannot hide a vector

Proved: `isXSS_or` — `IsXSS` is exactly the disjunction of the five context verdicts (evaluated in
order, short-circuiting, which is invisible because the contexts are pure functions of the input).
`ctx_embed` and `data_prefix` are the other two clauses: the tokenizer and the `isXSS` loop commute with
prepending bytes to the input (`Proofs/H5Shift`, `Proofs/XssShift`: every state function on the shifted
state gives the shifted result, on the states that do not test `pos = 0`), the harmless tag prefixes
are stepped through by kernel evaluation, and a `<`-free prefix only lengthens the first text token. -/
namespace LibInj.Properties.C13
open LibInj LibInj.Xss

/-- a context that is asked first answers `true` itself or leaves the verdict to the rest -/
theorem ctx_or {x k : M Bool} {b r : Bool} (hx : x = .ok b) (hk : k = .ok r) :
    (x >>= fun b => if b = true then pure true else k) = .ok (b || r) := by
  subst hx
  cases b
  · exact hk
  · rfl

theorem ctx_step {x k : M Bool} (h : (x >>= fun b => if b = true then pure true else k) = .ok true) :
    x = .ok true ∨ k = .ok true := by
  cases x with
  | error e => cases h
  | ok b =>
    cases b with
    | true => exact Or.inl rfl
    | false => exact Or.inr h

/-- **C13, disjunction.** If each context returns, `isXSS` returns the OR of the five verdicts. -/
theorem isXSS_or (s : Bytes) (b0 b1 b2 b3 b4 : Bool)
    (h0 : isXSSCtx s 0 = .ok b0) (h1 : isXSSCtx s 1 = .ok b1) (h2 : isXSSCtx s 2 = .ok b2)
    (h3 : isXSSCtx s 3 = .ok b3) (h4 : isXSSCtx s 4 = .ok b4) :
    isXSS s = .ok (b0 || b1 || b2 || b3 || b4) := by
  unfold isXSS
  simp only [Bool.or_assoc]
  exact ctx_or h0 (ctx_or h1 (ctx_or h2 (ctx_or h3 h4)))

/-- a true verdict of `isXSS` is a true verdict of some context, whatever the other contexts do -/
theorem isXSS_true_some_ctx (s : Bytes) (h : isXSS s = .ok true) : ∃ c, c < 5 ∧ isXSSCtx s c = .ok true := by
  unfold isXSS at h
  rcases ctx_step h with h0 | h
  · exact ⟨0, by decide, h0⟩
  rcases ctx_step h with h1 | h
  · exact ⟨1, by decide, h1⟩
  rcases ctx_step h with h2 | h
  · exact ⟨2, by decide, h2⟩
  rcases ctx_step h with h3 | h
  · exact ⟨3, by decide, h3⟩
  exact ⟨4, by decide, h⟩

/-- harmless tag prefixes that put the machine into each attribute context -/
def embed : Nat → Bytes
  | 1 => [60, 97, 32]                 -- `<a `
  | 2 => [60, 97, 32, 98, 61, 39]     -- `<a b='`
  | 3 => [60, 97, 32, 98, 61, 34]     -- `<a b="`
  | 4 => [60, 97, 32, 98, 61, 96]     -- "<a b=" followed by a back-tick
  | _ => []

def ctx_embed_statement : Prop :=
  ∀ (s : Bytes) (c : Nat), 1 ≤ c → c ≤ 4 → isXSSCtx s c = isXSSCtx (embed c ++ s) 0

def data_prefix_statement : Prop :=
  ∀ (s t : Bytes), (60 : UInt8) ∉ t → isXSSCtx (t ++ s) 0 = isXSSCtx s 0

/-- **C13, embedding.** The verdict of an attribute context is the element-content verdict of the input
placed at that position of a harmless tag. -/
theorem ctx_embed : ctx_embed_statement := by
  intro s c h1 h4
  have hc : c = 1 ∨ c = 2 ∨ c = 3 ∨ c = 4 := by omega
  rcases hc with rfl | rfl | rfl | rfl
  · exact (embed_ctx1 s).symm
  · exact (embed_quote 39 2 (Or.inl rfl) rfl s).symm
  · exact (embed_quote 34 3 (Or.inr (Or.inl rfl)) rfl s).symm
  · exact (embed_quote 96 4 (Or.inr (Or.inr rfl)) rfl s).symm

/-- **C13, prefix.** Text without `<` in front of the input never changes the element-content verdict. -/
theorem data_prefix : data_prefix_statement := fun s t ht => Xss.data_prefix s t ht

/-- **C13, full statement on the model**: `IsXSS` is the disjunction of the five context verdicts, each
attribute context is the element-content reading of the embedded input, and a `<`-free prefix is inert. -/
theorem xss_contexts (s : Bytes) :
    (∀ b0 b1 b2 b3 b4, isXSSCtx s 0 = .ok b0 → isXSSCtx s 1 = .ok b1 → isXSSCtx s 2 = .ok b2 →
      isXSSCtx s 3 = .ok b3 → isXSSCtx s 4 = .ok b4 → isXSS s = .ok (b0 || b1 || b2 || b3 || b4)) ∧
    (∀ c, 1 ≤ c → c ≤ 4 → isXSSCtx s c = isXSSCtx (embed c ++ s) 0) ∧
    (∀ t, (60 : UInt8) ∉ t → isXSSCtx (t ++ s) 0 = isXSSCtx s 0) :=
  ⟨fun b0 b1 b2 b3 b4 h0 h1 h2 h3 h4 => isXSS_or s b0 b1 b2 b3 b4 h0 h1 h2 h3 h4,
   fun c h1 h4 => ctx_embed s c h1 h4, fun t ht => data_prefix s t ht⟩

/-- non-vacuity / regression instances of the embedding and the disjunction, evaluated by the kernel on the model -/
example : isOkTrue (isXSSCtx [111, 110, 99, 108, 105, 99, 107, 61, 120] 1) = true ∧
    isOkTrue (isXSSCtx (embed 1 ++ [111, 110, 99, 108, 105, 99, 107, 61, 120]) 0) = true := by decide +kernel

end LibInj.Properties.C13
