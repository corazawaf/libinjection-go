import LibInj.Properties.C17
import LibInj.Xss.IsXSS
/-! # C07 — the HTML5 tokenizer and XSS classifier conform to the reference algorithm

The reference meanings are declarative: a delimited construct's token spans the bytes up to the
*first* occurrence of its terminator and scanning resumes right after it; a name scan is the
longest run of a named byte class; a tag is black iff its upper-cased, NUL-free text is on the regenerated
list (`isBlackTag_iff`), attributes and URLs are classified by the model's definitions over the regenerated lists. Where the code reaches those meanings by index arithmetic the
model is proved equal to them; classification is definitional over the regenerated lists. **Every
disagreement between the Go package and the model on `h5`/`xc`/`x`/`dec`/`url`/`tag`/`attr` is
therefore a concrete C07 counterexample** and is reported with the input as the replay.

Proved: every delimited construct ends at its first terminator and scanning resumes right after it —
bogus comments and doctype at the first `>`, quoted values at the first quote, `<![CDATA[` at the first
`]]>`, `<% %>` at the first `%>`, `<!-- -->` at the first `-` NUL* (`-`|`!`) `>` (C17); `IsXSS` is the
disjunction of the five contexts; classification characterisations below; totality and in-bounds of
all 20 state functions (C02).
DESIGN §5 lists D1–D3 as defects of the shipped code at such places (repaired in /repo); of the three only D1 has a
witness in these files (`C02.cdata_shipped_guard_panics`). -/
namespace LibInj.Properties.C07
open LibInj LibInj.H5 LibInj.Xss

/-- a tag is black iff it has at least 3 raw bytes and its upper-cased NUL-free text is on the
list or is `SVT` / `XSL` -/
theorem isBlackTag_iff (s : Bytes) :
    isBlackTag s = true ↔ 3 ≤ s.length ∧ (goUpper (stripNul s) ∈ Gen.blackTags ∨ goUpper (stripNul s) = SVT ∨ goUpper (stripNul s) = XSL) := by
  unfold isBlackTag
  by_cases h : s.length < 3
  · simp [h]; omega
  · simp [h, or_assoc]
    omega

/-- an attribute whose NUL-free text has fewer than 2 bytes is never black -/
theorem isBlackAttr_short (s : Bytes) (h : (goUpper (stripNul s)).length < 2) : isBlackAttr s = 0 := by
  unfold isBlackAttr
  simp [h]

/-- the tokenizer is total and in-bounds from every context (C02); that the `>`-terminated constructs end at
the first `>` is `bogus_refines` below -/
theorem tokenizer_conforms (s : Bytes) (ctx : Nat) :
    ∃ ts, tokens s ctx = .ok ts ∧ (∀ t ∈ ts, t.off + t.len ≤ s.length) :=
  C17.tokens_inside_input s ctx

/-- `<![CDATA[ .. ]]>` ends at the first `]]>` (the shipped end-of-input guard, defect D1 of DESIGN §5, reads out of range
instead: `C02.cdata_shipped_guard_panics`) -/
theorem cdata_refines (h : H) (hp : h.pos ≤ h.s.length) :
    (∀ i, Term3 h.s 93 93 62 i → h.pos ≤ i → (∀ j, h.pos ≤ j → j < i → ¬ Term3 h.s 93 93 62 j) →
      stateCData h = foundAt h .dataText i 3) ∧
    ((∀ i, h.pos ≤ i → ¬ Term3 h.s 93 93 62 i) → stateCData h = ranOut h .dataText) :=
  C17.cdata_first_terminator h hp

/-- `<% .. %>` ends at the first `%>` (DESIGN §5 lists D2 as a defect of the shipped `stateBogusComment2` at this place,
repaired in /repo; these files carry no witness for it) -/
theorem percent_refines (h : H) (hp : h.pos ≤ h.s.length) :
    (∀ i, Term2 h.s 37 62 i → h.pos ≤ i → (∀ j, h.pos ≤ j → j < i → ¬ Term2 h.s 37 62 j) →
      stateBogusComment2 h = foundAt h .tagComment i 2) ∧
    ((∀ i, h.pos ≤ i → ¬ Term2 h.s 37 62 i) → stateBogusComment2 h = ranOutEnd h .tagComment) :=
  C17.percent_first_terminator h hp

/-- `<!-- ..` ends at the first `-` NUL* (`-`|`!`) `>` -/
theorem comment_refines (h : H) (hp : h.pos ≤ h.s.length) :
    (∀ i n, ComEnd h.s i n → h.pos ≤ i → (∀ j m, h.pos ≤ j → j < i → ¬ ComEnd h.s j m) →
      stateComment h = foundAt h .tagComment i (n + 3)) ∧
    ((∀ i n, h.pos ≤ i → ¬ ComEnd h.s i n) → stateComment h = ranOut h .tagComment) :=
  C17.comment_first_terminator h hp

/-- bogus comments (`<!x`, `<?x`, `</!x`) and doctype end at the first `>` -/
theorem bogus_refines (h : H) (hp : h.pos ≤ h.s.length) (i : Nat) (hi : indexByte (h.s.drop h.pos) 62 = some i) :
    (∃ h', stateBogusComment h = .ok (true, h') ∧ h'.tokStart = h.pos ∧ h'.tokLen = i ∧ h'.pos = h.pos + i + 1) ∧
    (∃ h', stateDoctype h = .ok (true, h') ∧ h'.tokStart = h.pos ∧ h'.tokLen = i ∧ h'.pos = h.pos + i + 1) := by
  obtain ⟨h1, e1, a1, b1, c1, _⟩ := (C17.bogus_comment_first_gt h hp).1 i hi
  obtain ⟨h2, e2, a2, b2, c2, _⟩ := C17.doctype_first_gt h hp i hi
  exact ⟨⟨h1, e1, a1, b1, c1⟩, ⟨h2, e2, a2, b2, c2⟩⟩

/-- the five contexts are tried in order and `IsXSS` is their disjunction (C13) -/
def contexts_statement : Prop :=
  ∀ (s : Bytes) (a b c d e : Bool), isXSSCtx s 0 = .ok a → isXSSCtx s 1 = .ok b → isXSSCtx s 2 = .ok c →
    isXSSCtx s 3 = .ok d → isXSSCtx s 4 = .ok e → isXSS s = .ok (a || b || c || d || e)

theorem contexts_refine : contexts_statement := by
  intro s a b c d e ha hb hc hd he
  unfold isXSS
  simp only [ha, hb, hc, hd, he, bind, Except.bind, pure, Except.pure]
  cases a <;> cases b <;> cases c <;> cases d <;> cases e <;> rfl

example : isBlackTag [115, 99, 0, 114, 105, 112, 116] = true ∧ isBlackTag [115, 99] = false := by decide +kernel

end LibInj.Properties.C07
