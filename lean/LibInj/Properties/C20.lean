import LibInj.Proofs.KwTable
import LibInj.Baseline.Keywords
import LibInj.Baseline.Xss
/-! # C20 — shipped detection tables are well-formed and never lose baseline entries

`Gen.*` is regenerated from /repo on every run; `Baseline.*` is the pinned snapshot (commit
0520984). Every theorem here is re-checked by the kernel against the regenerated tables. -/
namespace LibInj.Properties.C20
open LibInj LibInj.Tables

/-- the full statement of C20 -/
def C20_statement : Prop :=
  (∀ e ∈ Gen.keywords, kwOK e = true) ∧
  (∀ t ∈ Gen.blackTags, upperNulFree t = true) ∧
  (∀ a ∈ Gen.blacks, upperNulFree a.1 = true) ∧
  (∀ a ∈ Gen.blackEvents, upperNulFree a.1 = true) ∧
  (∀ e ∈ Baseline.keywords, e ∈ Gen.keywords) ∧
  (∀ t ∈ Baseline.blackTags, t ∈ Gen.blackTags) ∧
  (∀ a ∈ Baseline.blacks, a ∈ Gen.blacks) ∧
  (∀ a ∈ Baseline.blackEvents, a ∈ Gen.blackEvents)

theorem keywords_wf : Gen.keywords.all kwOK = true := Sqli.kw_wf

theorem fingerprint_comment_only_last : Gen.keywords.all commentOnlyLast = true := Sqli.kw_comment

theorem xss_lists_wf :
    Gen.blackTags.all upperNulFree = true ∧
    (Gen.blacks.all fun a => upperNulFree a.1) = true ∧
    (Gen.blackEvents.all fun a => upperNulFree a.1) = true ∧
    Gen.hexMap.length = 256 := by decide +kernel

theorem baseline_keywords_merge : subMerge Baseline.keywords Gen.keywords = true := by decide +kernel

theorem baseline_xss_lists :
    tagsSub Baseline.blackTags Gen.blackTags = true ∧
    namedSub Baseline.blacks Gen.blacks = true ∧
    namedSub Baseline.blackEvents Gen.blackEvents = true := by decide +kernel

/-- every baseline keyword/fingerprint is still looked up with the same class -/
theorem baseline_lookup_preserved : ∀ e ∈ Baseline.keywords, Sqli.lookupKw e.1 e.2.1 = some e.2.2 := by
  intro e he
  have hm := subMerge_sound _ _ baseline_keywords_merge e he
  exact lookupIn_of_mem _ Sqli.keywords_strictSorted e.1 e.2.1 e.2.2 hm

theorem tables_wellformed_and_baseline_preserved : C20_statement := by
  refine ⟨?_, ?_, ?_, ?_, ?_, ?_, ?_, ?_⟩
  · exact fun e he => List.all_eq_true.mp keywords_wf e he
  · exact fun t ht => List.all_eq_true.mp xss_lists_wf.1 t ht
  · exact fun a ha => List.all_eq_true.mp xss_lists_wf.2.1 a ha
  · exact fun a ha => List.all_eq_true.mp xss_lists_wf.2.2.1 a ha
  · exact subMerge_sound _ _ baseline_keywords_merge
  · intro t ht
    have := List.all_eq_true.mp baseline_xss_lists.1 t ht
    simpa using this
  · intro a ha
    have := List.all_eq_true.mp baseline_xss_lists.2.1 a ha
    simpa using this
  · intro a ha
    have := List.all_eq_true.mp baseline_xss_lists.2.2 a ha
    simpa using this

/-- non-vacuity: the tables are not empty and a well-known fingerprint is present -/
example : Gen.keywords.length > 9000 ∧ Sqli.lookupKw 4 0x30532631 = some 70 := by decide +kernel

end LibInj.Properties.C20
