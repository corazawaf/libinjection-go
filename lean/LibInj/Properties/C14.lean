import LibInj.Proofs.BenignTop
import LibInj.Proofs.DotKeys
/-! # C14 — plain words and numbers are never reported as SQLi

**The general form (`txt_not_sqli`):** every text of the grammar `Txt` (`Proofs/BenignLex`) has
`isSQLi = .ok (false, [])`. A text strings together, with single or repeated spaces: identifiers that are no key of the keyword
table and start none of its phrases; dotted identifiers `w1.w2` / `w.` whose first part is no keyword; unsigned integers,
decimals `digits.digits` / `digits.` and exponent notation `12e-3`; `@dotted.identifier` variables, also directly after
a word (`name@host.tld`); the marks `,` `?` `: ` directly after a word or an integer. Any number of items, of any length.

The proof follows the pipeline. (1) Lexing (`Proofs/BenignLex`): every dispatch class a letter can select (the `b'`
`e'` `n'` `q'` `u&'` `x'` prefixes included) falls back to `parseWord`, whose keyword-split loop finds nothing, so a word
is one bareword spanning exactly its text (`runP_run`, `parseWord_run`, `parseWord_dotted`); a number is one number
(`parseNumber_run`, `parseNumber_dec`), a variable one variable (`parseVar_good`), `,` `?` `: ` tokens of their own
classes (`runP_comma`, `runP_qmark`, `runP_colon`); the dispatch-table facts are re-checked on every build. (2) Folding
(`Proofs/Benign`, `Proofs/BenignTop`): among tokens of the classes `n 1 v , ? :` no two-token rule fires, `merge` finds no
phrase, and the only three-token rule that can fire is `x , y` → `x`, which keeps the window benign (`foldTwo_benign`,
`foldThree_benign`), so `fold` only moves its cursor (`foldLoop_benign`). (3) The fingerprint is a word over these
classes, and **no key over them is in the blacklist** (`n1_not_blacklisted` in `Proofs/FpTable`, from the table fact
`benign_fingerprints_absent_table`: the whole regenerated table at once). (4) No `'`/`"` occurs and no `#`/`--` comment
was counted, so the other four readings are not tried.

**The families of the property** are instances: space-separated words and integers (`benign_not_sqli`, the statement
`C14_statement`), with the e-mail-like, decimal and dotted items of `Item` (`benign_items_not_sqli`, `email_not_sqli`,
`email2_not_sqli`, `decimal_not_sqli`), two of the three punctuated-sentence shapes (`sentence_not_sqli`,
`sentence3_not_sqli`), exponent notation (`scientific_not_sqli`), comma-separated enumerations of any length
(`enumeration_not_sqli`, `ones_not_sqli`), and texts joined by a space (`benign_concat_not_sqli`).

The statements here speak of `Word`, `Num`, `NotKeywordLike` and `Item`, which mention the model's tables only; the grammar
speaks of `GoodWord` (`Word` ∧ `NotKeywordLike`, the latter asked only of words that fit the 31-byte clip: `goodWord_of`),
`GoodNum` (the same as `Num`), `GoodDotted`, `GoodDec`, `GoodSci`; `WordRun` / `NumRun` are what the lexing proofs need of a
run, and every `Good…` form gives one.

`benign_fingerprints_absent` states the table fact for the classes `n 1` alone, by reversed class list (`keyRev`); the
pipeline above does not use it.

Not a theorem (sampled by the oracle and compared with the model): the sentence family with `!`
(`w w! w?`): `!` is an operator token, rules fire around it, and some fingerprints over the enlarged class set are
blacklisted, so the claim depends on the particular shape. -/
namespace LibInj.Properties.C14
open LibInj LibInj.Tables LibInj.Sqli

def Word (w : Bytes) : Prop := ∃ c t, w = c :: t ∧ isWordStartB c = true ∧ t.all isWordByteB = true
def Num (w : Bytes) : Prop := w ≠ [] ∧ w.all isDigit = true
/-- the word is no key of the table and starts no phrase of the table -/
def NotKeywordLike (w : Bytes) : Prop := searchKeyword w = 0 ∧ ∀ y, searchKeyword (w ++ [32] ++ y) = 0
def unwords : List Bytes → Bytes
  | [] => []
  | [w] => w
  | w :: t => w ++ [32] ++ unwords t

/-- the statement of C14 (word/number core) -/
def C14_statement : Prop :=
  ∀ ws : List Bytes, (∀ w ∈ ws, (Word w ∧ NotKeywordLike w) ∨ Num w) → isSQLi (unwords ws) = .ok (false, [])

theorem goodWord_of {w : Bytes} (h : Word w) (k : NotKeywordLike w) : GoodWord w := ⟨h, fun _ => k.1, fun _ => k.2⟩

theorem good_of {w : Bytes} (h : (Word w ∧ NotKeywordLike w) ∨ Num w) : GoodWord w ∨ GoodNum w :=
  h.imp (fun h => goodWord_of h.1 h.2) id

theorem word_bytes {w : Bytes} (h : Word w) : w.all isWordByteB = true := by
  obtain ⟨c, t, rfl, hc, ht⟩ := h
  simp [isWordByteB, hc, ht]

/-- what may stand between single spaces: a word, an unsigned integer, `word@dotted.identifier`, `@dotted.identifier`,
a decimal `digits.digits`, a dotted identifier, `dotted.identifier@dotted.identifier` -/
def Item (x : Bytes) : Prop :=
  (Word x ∧ NotKeywordLike x) ∨ Num x ∨
  (∃ w vw, x = w ++ 64 :: vw ∧ Word w ∧ NotKeywordLike w ∧ VarBody vw) ∨ (∃ vw, x = 64 :: vw ∧ VarBody vw) ∨
  (∃ d1 d2, x = d1 ++ 46 :: d2 ∧ Num d1 ∧ Num d2) ∨
  GoodDotted x ∨ (∃ w vw, x = w ++ 64 :: vw ∧ GoodDotted w ∧ VarBody vw)

/-- the last item of a text: what may stand before end of input or a space may end the text -/
theorem txt_last {w : Bytes} (h : ∀ {r : Bytes}, Sep r → Txt r → Txt (w ++ r)) : Txt w :=
  List.append_nil w ▸ h (Or.inl rfl) Txt.nil

theorem txt_item (x r : Bytes) (hx : Item x) (hsep : Sep r) (hr : Txt r) : Txt (x ++ r) := by
  rcases hx with h | hnum | ⟨w, vw, rfl, hword, hk, hv⟩ | ⟨vw, rfl, hv⟩ | ⟨d1, d2, rfl, h1, h2⟩ | hdot | ⟨w, vw, rfl, hdot, hv⟩
  · exact Txt.word (good_of (Or.inl h)) hsep hr
  · exact Txt.word (Or.inr hnum) hsep hr
  · rw [List.append_assoc]
    exact Txt.wordAt (goodWord_of hword hk) (by decide) (Txt.var hv hsep hr)
  · exact Txt.var hv hsep hr
  · exact Txt.dec ⟨d1, d2, rfl, h1, h2.2⟩ hsep hr
  · exact Txt.dotted hdot hsep hr
  · rw [List.append_assoc]
    exact Txt.dottedAt hdot (by decide) (Txt.var hv hsep hr)

theorem txt_items : ∀ (xs : List Bytes), (∀ x ∈ xs, Item x) → Txt (unwords xs)
  | [], _ => Txt.nil
  | [x], h => txt_last (txt_item x _ (h x (by simp)))
  | x :: x' :: t, h => by
    have ih := txt_items (x' :: t) (fun y hy => h y (List.mem_cons_of_mem _ hy))
    have := txt_item x (32 :: unwords (x' :: t)) (h x (by simp)) (Or.inr ⟨_, rfl⟩) (Txt.space ih)
    simpa [unwords] using this

/-- **C14 with the e-mail-like, decimal and dotted families**: items of the seven forms of `Item`, separated by single spaces,
are never reported as SQLi -/
theorem benign_items_not_sqli (xs : List Bytes) (h : ∀ x ∈ xs, Item x) : isSQLi (unwords xs) = .ok (false, []) :=
  isSQLi_txt _ (txt_items xs h)

/-- **C14, word/number core: full statement.** -/
theorem benign_not_sqli : C14_statement :=
  fun ws h => benign_items_not_sqli ws fun w hw => (h w hw).elim Or.inl fun hn => Or.inr (Or.inl hn)

theorem item_not_sqli (x : Bytes) (h : Item x) : isSQLi x = .ok (false, []) :=
  benign_items_not_sqli [x] fun _ hy => List.mem_singleton.mp hy ▸ h

theorem varBody_dotted {w2 w3 : Bytes} (h2 : Word w2) (h3 : Word w3) : VarBody (w2 ++ 46 :: w3) := by
  have a3 := word_bytes h3
  obtain ⟨c, t, rfl, hc, ht⟩ := h2
  refine ⟨c, t ++ 46 :: w3, rfl, hc, ?_⟩
  simp only [List.all_append, List.all_cons, Bool.and_eq_true]
  exact ⟨all_imp ht fun x hx => by simp [isVarBodyByte, hx], by decide, all_imp a3 fun x hx => by simp [isVarBodyByte, hx]⟩

/-- the e-mail shape of the property: `w1@w2.w3` -/
theorem email_not_sqli (w1 w2 w3 : Bytes) (h1 : Word w1) (hk : NotKeywordLike w1) (h2 : Word w2) (h3 : Word w3) :
    isSQLi (w1 ++ 64 :: (w2 ++ 46 :: w3)) = .ok (false, []) :=
  item_not_sqli _ (Or.inr (Or.inr (Or.inl ⟨w1, _, rfl, h1, hk, varBody_dotted h2 h3⟩)))

/-- the second e-mail shape of the property: `w1.w2@w3.w4`, where `w1` is no keyword and `w1.w2` is no key and starts no phrase -/
theorem email2_not_sqli (w1 w2 w3 w4 : Bytes) (h1 : Word w1) (h2 : Word w2) (h3 : Word w3) (h4 : Word w4)
    (hk1 : searchKeyword w1 = 0 ∨ searchKeyword w1 = 110) (hk : NotKeywordLike (w1 ++ 46 :: w2)) :
    isSQLi ((w1 ++ 46 :: w2) ++ 64 :: (w3 ++ 46 :: w4)) = .ok (false, []) :=
  have hd : GoodDotted (w1 ++ 46 :: w2) := ⟨w1, w2, rfl, h1, word_bytes h2, hk1, fun _ => hk.1, fun _ => hk.2⟩
  item_not_sqli _ (Or.inr (Or.inr (Or.inr (Or.inr (Or.inr (Or.inr ⟨_, _, rfl, hd, varBody_dotted h3 h4⟩))))))

/-- the decimal shape of the property: `d1.d2` -/
theorem decimal_not_sqli (d1 d2 : Bytes) (h1 : Num d1) (h2 : Num d2) : isSQLi (d1 ++ 46 :: d2) = .ok (false, []) :=
  item_not_sqli _ (Or.inr (Or.inr (Or.inr (Or.inr (Or.inl ⟨d1, d2, rfl, h1, h2⟩)))))

/-- **the general form**: every text of the grammar `Txt` (`Proofs/BenignLex`) is not SQLi -/
theorem txt_not_sqli (input : Bytes) (h : Txt input) : isSQLi input = .ok (false, []) := isSQLi_txt input h

/-- the last word needs no hypothesis about `w3.`: no key of the regenerated table ends in `.` and none contains `. `
(`Proofs/DotKeys`, `keys_dot_facts`) -/
theorem word_dot_not_keywordlike (w : Bytes) (h : Word w) : NotKeywordLike (w ++ [46]) :=
  word_dot_free w (word_bytes h)

/-- the sentence shape of the property: `w1, w2 w3.` — the comma is a token of its own class (the one fold rule it can
trigger, `x , y` with a bareword, number, string or variable on either side, only drops two tokens), the final `w3.` is one
bareword (`w3` itself may be any non-keyword or bareword-class word) -/
theorem sentence_not_sqli (w1 w2 w3 : Bytes) (h1 : Word w1) (k1 : NotKeywordLike w1) (h2 : Word w2) (k2 : NotKeywordLike w2)
    (h3 : Word w3) (k3 : searchKeyword w3 = 0 ∨ searchKeyword w3 = 110) :
    isSQLi (w1 ++ 44 :: 32 :: (w2 ++ 32 :: (w3 ++ [46]))) = .ok (false, []) := by
  apply isSQLi_txt
  have k3' := word_dot_not_keywordlike w3 h3
  have t3 : Txt (w3 ++ [46]) := txt_last (Txt.dotted ⟨w3, [], rfl, h3, rfl, k3, fun _ => k3'.1, fun _ => k3'.2⟩)
  have t2 := Txt.word (Or.inl (goodWord_of h2 k2)) (Or.inr ⟨_, rfl⟩) (Txt.space t3)
  exact Txt.wordAt (goodWord_of h1 k1) (by decide) (Txt.punct (Or.inl rfl) (Txt.space t2))

/-- the third sentence shape of the property: `w1 w2: w3 d.` — `: ` is a token of class `:`, the final `d.` is one number -/
theorem sentence3_not_sqli (w1 w2 w3 d : Bytes) (h1 : Word w1) (k1 : NotKeywordLike w1) (h2 : Word w2) (k2 : NotKeywordLike w2)
    (h3 : Word w3) (k3 : NotKeywordLike w3) (hd : Num d) :
    isSQLi (w1 ++ 32 :: (w2 ++ 58 :: 32 :: (w3 ++ 32 :: (d ++ [46])))) = .ok (false, []) := by
  apply isSQLi_txt
  have t4 : Txt (d ++ [46]) := txt_last (Txt.dec ⟨d, [], rfl, hd, rfl⟩)
  have t3 := Txt.word (Or.inl (goodWord_of h3 k3)) (Or.inr ⟨_, rfl⟩) (Txt.space t4)
  have t2 := Txt.wordAt (goodWord_of h2 k2) (show isSepByte 58 = true by decide) (Txt.colon t3)
  exact Txt.word (Or.inl (goodWord_of h1 k1)) (Or.inr ⟨_, rfl⟩) (Txt.space t2)

/-- numbers in exponent notation (`12e5`, `3E+10`, `7e-2`) between single spaces, among words and unsigned integers -/
theorem scientific_not_sqli (a b m x sg : Bytes) (e : UInt8) (ha : (Word a ∧ NotKeywordLike a) ∨ Num a)
    (hb : (Word b ∧ NotKeywordLike b) ∨ Num b) (hm : Num m) (hx : Num x) (he : e = 69 ∨ e = 101)
    (hs : sg = [] ∨ sg = [43] ∨ sg = [45]) :
    isSQLi (a ++ 32 :: ((m ++ e :: (sg ++ x)) ++ 32 :: b)) = .ok (false, []) := by
  apply isSQLi_txt
  have tb : Txt b := txt_last (Txt.word (good_of hb))
  have tm := Txt.sci (w := m ++ e :: (sg ++ x)) ⟨m, x, e, sg, rfl, hm, hx, he, hs⟩ (Or.inr ⟨_, rfl⟩) (Txt.space tb)
  exact Txt.word (good_of ha) (Or.inr ⟨_, rfl⟩) (Txt.space tm)

/-- non-vacuity: the conclusion on `rate 12e-3 today` is what the kernel computes -/
example : (match isSQLi (bs "rate 12e-3 today") with | .ok (false, []) => true | _ => false) = true := by
  decide +kernel

theorem sep_append {r : Bytes} (h : Sep r) (b : Bytes) : Sep (r ++ 32 :: b) := by
  rcases h with rfl | ⟨r', rfl⟩
  · exact Or.inr ⟨b, rfl⟩
  · exact Or.inr ⟨r' ++ 32 :: b, rfl⟩

/-- **benign texts compose**: two texts of the grammar joined by a space form a text of the grammar -/
theorem txt_append_space : ∀ {a : Bytes}, Txt a → ∀ {b : Bytes}, Txt b → Txt (a ++ 32 :: b) := by
  intro a ha b hb
  induction ha with
  | nil => exact hb.space
  | space _ ih => exact ih.space
  | punct hp _ ih => exact ih.punct hp
  | colon _ ih => exact ih.colon
  | var hv hsep _ ih => rw [List.cons_append, List.append_assoc]; exact ih.var hv (sep_append hsep b)
  | word hw hsep _ ih => rw [List.append_assoc]; exact ih.word hw (sep_append hsep b)
  | dec hw hsep _ ih => rw [List.append_assoc]; exact ih.dec hw (sep_append hsep b)
  | sci hw hsep _ ih => rw [List.append_assoc]; exact ih.sci hw (sep_append hsep b)
  | dotted hw hsep _ ih => rw [List.append_assoc]; exact ih.dotted hw (sep_append hsep b)
  | wordAt hw hsp _ ih => rw [List.append_assoc]; exact ih.wordAt hw hsp
  | dottedAt hw hsp _ ih => rw [List.append_assoc]; exact ih.dottedAt hw hsp
  | numAt hw hsp _ ih => rw [List.append_assoc]; exact ih.numAt hw hsp

/-- two benign texts joined by a space are not SQLi -/
theorem benign_concat_not_sqli (a b : Bytes) (ha : Txt a) (hb : Txt b) : isSQLi (a ++ 32 :: b) = .ok (false, []) :=
  isSQLi_txt _ (txt_append_space ha hb)

/-- items joined by `, ` -/
def commaList : List Bytes → Bytes
  | [] => []
  | [x] => x
  | x :: t => x ++ 44 :: 32 :: commaList t

theorem txt_commaList : ∀ (xs : List Bytes), (∀ x ∈ xs, (Word x ∧ NotKeywordLike x) ∨ Num x) → Txt (commaList xs)
  | [], _ => Txt.nil
  | [x], h => txt_last (Txt.word (good_of (h x (by simp))))
  | x :: x' :: t, h => by
    have ih := txt_commaList (x' :: t) (fun y hy => h y (List.mem_cons_of_mem _ hy))
    have rest : Txt (44 :: 32 :: commaList (x' :: t)) := Txt.punct (Or.inl rfl) (Txt.space ih)
    rcases h x (by simp) with ⟨hword, hk⟩ | hnum
    · exact Txt.wordAt (goodWord_of hword hk) (by decide) rest
    · exact Txt.numAt hnum (by decide) rest

/-- **enumerations of any length**: words (no key, no start of a phrase) and unsigned integers joined by `, ` are never
reported — the comma rule of `fold` (`x , y` drops two tokens) consumes the list as fast as it is read, however long -/
theorem enumeration_not_sqli (xs : List Bytes) (h : ∀ x ∈ xs, (Word x ∧ NotKeywordLike x) ∨ Num x) :
    isSQLi (commaList xs) = .ok (false, []) := isSQLi_txt _ (txt_commaList xs h)

/-- in particular `1, 1, 1, …` with any number of items (a token or byte budget inside `fold` would cut such a list) -/
theorem ones_not_sqli (n : Nat) : isSQLi (commaList (List.replicate n [49])) = .ok (false, []) :=
  enumeration_not_sqli _ (fun x hx => by
    have := (List.mem_replicate.mp hx).2
    subst this
    exact Or.inr ⟨by decide, by decide⟩)

/-- non-vacuity: the conclusion on `hello, dear world.` and on `note to: self 42.` is what the kernel computes -/
example : (match isSQLi (bs "hello, dear world.") with | .ok (false, []) => true | _ => false) = true := by
  decide +kernel
example : (match isSQLi (bs "note to: self 42.") with | .ok (false, []) => true | _ => false) = true := by
  decide +kernel

/-- non-vacuity: the conclusion on `joe@example.com 42` is what the kernel computes -/
example : (match isSQLi [106,111,101,64,101,120,97,109,112,108,101,46,99,111,109,32,52,50] with | .ok (false, []) => true | _ => false) = true := by
  decide +kernel

/-- non-vacuity: `hello` has the shape of a word … -/
example : Word (bs "hello") := ⟨104, bs "ello", by decide +kernel, by decide +kernel, by decide +kernel⟩
/-- … and the statement's conclusion on a concrete instance is what the kernel computes -/
example : (match isSQLi (unwords [bs "hello", bs "42", bs "world_1"]) with | .ok (false, []) => true | _ => false) = true := by
  decide +kernel

theorem benign_fingerprints_absent_table : (Gen.keywords.all fun e => !badEntry e) = true :=
  LibInj.Sqli.benign_fingerprints_absent_table

/-- base-256 value of the key `"0" ++ f` where `r` is `f` reversed (last class first) -/
def keyRev : List Nat → Nat
  | [] => 48
  | c :: r => keyRev r * 256 + c

theorem n1Key_keyRev : ∀ (r : List Nat), (∀ c ∈ r, c = 78 ∨ c = 49) → n1Key r.length (keyRev r) = true
  | [], _ => rfl
  | c :: r, h => by
    have hc : c = 78 ∨ c = 49 := h c (by simp)
    have hc256 : c < 256 := by rcases hc with rfl | rfl <;> decide
    have h1 : (keyRev r * 256 + c) % 256 = c := by omega
    have h2 : (keyRev r * 256 + c) / 256 = keyRev r := by omega
    simp only [keyRev, List.length_cons, n1Key, h1, h2]
    rw [n1Key_keyRev r (fun x hx => h x (by simp [hx]))]
    rcases hc with rfl | rfl <;> rfl

/-- **C14, class-abstraction part.** For every fingerprint over `{n,1}` of any length >= 1 (given
here by its reversed class list `r`; the set is closed under reversal) the look-up of
`"0" ++ upper f` in the regenerated table is not the fingerprint class `F`: a sequence of barewords
and numbers that does not fold is never blacklisted. -/
theorem benign_fingerprints_absent (r : List Nat) (hr : r ≠ []) (h : ∀ c ∈ r, c = 78 ∨ c = 49) :
    lookupKw (r.length + 1) (keyRev r) ≠ some 70 := by
  intro hl
  have hall := kw_fact benign_fingerprints_absent_table hl
  have hk := n1Key_keyRev r h
  have hlen : 1 ≤ r.length := by
    cases r with
    | nil => exact absurd rfl hr
    | cons _ _ => simp
  have h2 : Nat.ble 2 (r.length + 1) = true := by
    simp only [Nat.ble_eq]; omega
  simp [badEntry, hk, h2] at hall

/-- non-vacuity: `n1` is such a fingerprint, its key is `0N1` -/
example : keyRev [49, 78] = 0x304E31 ∧ (∀ c ∈ [49, 78], c = 78 ∨ c = 49) := by decide

end LibInj.Properties.C14
