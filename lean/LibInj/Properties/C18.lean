import LibInj.Proofs.QString
/-! # C18 — SQL string literals end at their first real terminator, in every literal form

All three clauses of the property are theorems about the model, for every text, with no bound:

* `closing_quote_loop_spec`, `string_literal_spec`: the `IndexByte`-jumping, backward-counting loop of
  `parseStringCore` (used by real quotes, the virtual opening quote, back-ticks, `n'`/`e'`/`u&'`
  prefixes and `@'var'`) equals the one-pass automaton `Spec.scan` that carries the parity of the
  current backslash run — "first delimiter neither preceded by an odd number of backslashes nor
  immediately followed by the same delimiter" — and the token/resume offset are derived from it;
* `qstring_all_delimiters`: for every delimiter byte `b >= 33` (the statement quantifies over all
  223 bytes, including 0x80–0xFF and the four bracket pairs) a q-string ends at the first
  `close(b)` followed by a quote;
* `dollar_dollar_first`, `dollar_tag_first`: a dollar-quoted string ends at the first repetition of its tag;
* `first_occurrence_meaning`: what "first" means for `strings.Index` as modelled.

**The callers' glue is proved too** (`plain_string_glue`, `estring_glue`, `nstring_glue`, `ustring_glue`,
`quoted_variable_glue`): `'…'`/`"…"`, `e'…'`, `n'…'`, `u&'…'` and `@'…'`/`@"…"` each resume right after the first real
terminator of their content (or at the end of input) with the token at the content's offset. `parseTick` (back-ticks) is
the core at offset 1 followed by a table look-up of the value; it is covered by `string_literal_spec` with `d = 96`. -/
namespace LibInj.Properties.C18
open LibInj LibInj.Sqli LibInj.Spec

theorem closing_quote_loop_spec (content : Bytes) (d : UInt8) (hd : d ≠ 92) :
    coreLoop content d 0 (content.length + 1) = .ok (closingQuote content d) :=
  coreLoop_spec content d hd

theorem closing_quote_in_range (content : Bytes) (d : UInt8) (q : Nat) (h : closingQuote content d = some q) :
    q < content.length := closingQuote_lt content d q h

theorem string_literal_spec (t : Token) (rest : Bytes) (offset : Nat) (d : UInt8) (hd : d ≠ 92)
    (ho : offset ≤ rest.length) :
    parseStringCore t rest offset d = .ok (
      let content := rest.drop offset
      let t0 := { t with strOpen := if offset > 0 then d else 0 }
      match closingQuote content d with
      | none => { tok := { t0 with cat := 115, pos := offset, len := clip (rest.length - offset),
                                   val := content.take (clip (rest.length - offset)), strClose := 0 },
                  next := rest.length }
      | some q => { tok := { t0 with cat := 115, pos := offset, len := clip q,
                                     val := content.take (clip q), strClose := d },
                    next := offset + q + 1 }) :=
  parseStringCore_spec t rest offset d hd ho

theorem qstring_all_delimiters (qc b : UInt8) (hq : qc = 113 ∨ qc = 81) (hb : 33 ≤ b) (body : Bytes) :
    parseQStringCore (qc :: 39 :: b :: body) 0 = .ok (
      match indexOf body [qClose b, 39] with
      | none => { tok := { cat := 115, pos := 3, len := clip body.length, val := body.take (clip body.length),
                           strOpen := 113, strClose := 0 }, next := 3 + body.length }
      | some i => { tok := { cat := 115, pos := 3, len := clip i, val := body.take (clip i),
                             strOpen := 113, strClose := 113 }, next := 3 + i + 2 }) :=
  qstring_spec qc b hq hb body

theorem dollar_dollar_first (body : Bytes) :
    parseMoney (36 :: 36 :: body) = .ok (
      match indexOf body [36, 36] with
      | none => { tok := { cat := 115, pos := 2, len := clip body.length, val := body.take (clip body.length),
                           strOpen := 36, strClose := 0 }, next := 2 + body.length }
      | some i => { tok := { cat := 115, pos := 2, len := clip i, val := body.take (clip i),
                             strOpen := 36, strClose := 36 }, next := 2 + i + 2 }) :=
  dollar_dollar_spec body

theorem dollar_tag_first (t0 : UInt8) (tag body : Bytes) (h0 : isLetter t0 = true) (ht : tag.all isLetter = true) :
    parseMoney (36 :: t0 :: (tag ++ 36 :: body)) = .ok (
      let opener : Bytes := 36 :: t0 :: (tag ++ [36])
      match indexOf body opener with
      | none => { tok := { cat := 115, pos := opener.length, len := clip body.length, val := body.take (clip body.length),
                           strOpen := 36, strClose := 0 }, next := opener.length + body.length }
      | some i => { tok := { cat := 115, pos := opener.length, len := clip i, val := body.take (clip i),
                             strOpen := 36, strClose := 36 }, next := opener.length + i + opener.length }) :=
  dollar_tag_spec t0 tag body h0 ht

theorem first_occurrence_meaning (h n : Bytes) (i : Nat) :
    indexOf h n = some i ↔ (i ≤ h.length ∧ isPrefix n (h.drop i) = true ∧ ∀ j < i, isPrefix n (h.drop j) = false) :=
  indexOf_some_iff h n i

/-- non-vacuity and regression witnesses (kernel-evaluated): the tail-duplication input of the
repaired defect closes at the second quote; an escaped and a doubled quote are skipped -/
example : closingQuote [92, 39, 39] 39 = some 2 := by decide
example : closingQuote [97, 39, 39, 98, 92, 39, 39, 99] 39 = some 6 := by decide
example : closingQuote [92, 92, 39, 120] 39 = some 2 := by decide

/-- what every literal form reports about its end: resumes after the first real terminator of the content, or at the end
of input when there is none -/
def EndsAtFirst (r : Lex) (rest : Bytes) (offset : Nat) (d : UInt8) : Prop :=
  (∀ q, closingQuote (rest.drop offset) d = some q → r.next = offset + q + 1 ∧ r.tok.len = clip q ∧ r.tok.pos = offset) ∧
  (closingQuote (rest.drop offset) d = none → r.next = rest.length ∧ r.tok.pos = offset)

theorem core_endsAtFirst (t : Token) (rest : Bytes) (offset : Nat) (d : UInt8) (hd : d ≠ 92) (ho : offset ≤ rest.length) :
    ∃ r, parseStringCore t rest offset d = .ok r ∧ EndsAtFirst r rest offset d := by
  refine ⟨_, parseStringCore_spec t rest offset d hd ho, ?_, ?_⟩
  · intro q hq; simp [hq]
  · intro hq; simp [hq]

/-- `EndsAtFirst` reads the resume offset and the token's offset and length only: a result for `rest[p:]`, re-based by
`shift`, is the result for `rest` with the content `p` bytes further in -/
theorem EndsAtFirst.shift {r : Lex} {rest : Bytes} {k p : Nat} {d : UInt8} (h : EndsAtFirst r (rest.drop p) k d)
    (hp : p ≤ rest.length) : EndsAtFirst (Sqli.shift r p) rest (p + k) d := by
  obtain ⟨h1, h2⟩ := h
  rw [List.drop_drop] at h1 h2
  rw [List.length_drop] at h2
  refine ⟨fun q hq => ?_, fun hq => ?_⟩
  · obtain ⟨a, b, c⟩ := h1 q hq
    exact ⟨by show r.next + p = p + k + q + 1; omega, b, by show r.tok.pos + p = p + k; omega⟩
  · obtain ⟨a, c⟩ := h2 hq
    exact ⟨by show r.next + p = rest.length; omega, by show r.tok.pos + p = p + k; omega⟩

/- On an input whose first bytes are given, a lexer's guards evaluate: which call of the core (or of `parseString`) it
makes there holds by computation. -/

/-- **plain quoted string** `'…` / `"…`: `parseString` is the core at offset 1 with the opening byte as delimiter -/
theorem plain_string_glue (t : Token) (c : UInt8) (body : Bytes) (hc : c ≠ 92) :
    ∃ r, parseString t (c :: body) = .ok r ∧ EndsAtFirst r (c :: body) 1 c :=
  core_endsAtFirst t (c :: body) 1 c hc (by simp)

/-- **`e'…'`** (PostgreSQL escape string): the core at offset 2 with `'` -/
theorem estring_glue (c0 b : UInt8) (body : Bytes) :
    ∃ r, parseEString (c0 :: 39 :: b :: body) = .ok r ∧ EndsAtFirst r (c0 :: 39 :: b :: body) 2 39 :=
  core_endsAtFirst {} (c0 :: 39 :: b :: body) 2 39 (by decide) (by simp)

/-- **`n'…'`** (national string) goes through the same lexer as `e'…'` -/
theorem nstring_glue (c0 b : UInt8) (body : Bytes) :
    ∃ r, parseNqString (c0 :: 39 :: b :: body) = .ok r ∧ EndsAtFirst r (c0 :: 39 :: b :: body) 2 39 :=
  estring_glue c0 b body

/-- **`u&'…'`** (unicode string): a plain string lexed two bytes in, re-based -/
theorem ustring_glue (c0 : UInt8) (body : Bytes) :
    ∃ r, parseUString (c0 :: 38 :: 39 :: body) = .ok r ∧
      (∀ q, closingQuote body 39 = some q → r.next = 3 + q + 1 ∧ r.tok.len = clip q ∧ r.tok.pos = 3) ∧
      (closingQuote body 39 = none → r.next = (c0 :: 38 :: 39 :: body).length ∧ r.tok.pos = 3) := by
  obtain ⟨r, hr, h⟩ := plain_string_glue {} 39 body (by decide)
  have e : parseUString (c0 :: 38 :: 39 :: body) = (do
      let r := Sqli.shift (← parseString {} (39 :: body)) 2
      return { r with tok := { r.tok with strOpen := 117, strClose := if r.tok.strClose == 39 then 117 else r.tok.strClose } }) := rfl
  rw [e, hr]
  exact ⟨_, rfl, h.shift (rest := c0 :: 38 :: 39 :: body) (p := 2) (by simp)⟩

/-- **`@'…'` / `@"…"`** (quoted variable): a plain string lexed one byte in, re-based, re-classified as a variable -/
theorem quoted_variable_glue (q : UInt8) (hq : q = 39 ∨ q = 34) (body : Bytes) :
    ∃ r, parseVar (64 :: q :: body) = .ok r ∧ r.tok.cat = 118 ∧
      (∀ k, closingQuote body q = some k → r.next = 2 + k + 1 ∧ r.tok.len = clip k ∧ r.tok.pos = 2) ∧
      (closingQuote body q = none → r.next = (64 :: q :: body).length ∧ r.tok.pos = 2) := by
  obtain ⟨r, hr, h⟩ := plain_string_glue { count := 1 } q body (by rcases hq with rfl | rfl <;> decide)
  have e : parseVar (64 :: q :: body) = (do
      let r ← parseString { count := 1 } (q :: body)
      return Sqli.shift { r with tok := { r.tok with cat := 118 } } 1) := by
    rcases hq with rfl | rfl <;> rfl
  rw [e, hr]
  exact ⟨_, rfl, rfl, h.shift (rest := 64 :: q :: body) (p := 1) (by simp)⟩

/-- non-vacuity: in `e'a\\'b'c` the content `a\'b'c` has its first real terminator at offset 4 (the quote at 2 is escaped) -/
example : closingQuote (bs "a\\'b'c") 39 = some 4 := by decide +kernel

end LibInj.Properties.C18
