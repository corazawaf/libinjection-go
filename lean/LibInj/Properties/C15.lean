import LibInj.Proofs.XssTotal
import LibInj.Proofs.NoLtEq
/-! # C15 — text without `<` and without `=` is never reported as XSS

`no_lt_eq_not_xss`: for **every** byte string that contains neither `<` nor `=`, `IsXSS` is false —
in each of the five contexts and for the disjunction. No bound on the input.

Proof: without `<` the data state emits one text token and stops; from the four attribute starts the
only reachable states are {before/after attribute name, self-closing, tag-name-close, data, eof,
after-quoted-value} and the only token types {attribute name, tag closers, text} plus the initial
attribute value of a quoted context, which is judged with no pending attribute; the state entered on
`=` (before-attribute-value) is unreachable. None of those token types can make the XSS loop return
true (`H5.next_shape`, `Proofs/NoLtEq`), and the loop terminates by the progress measure of C02. -/
namespace LibInj.Properties.C15
open LibInj LibInj.H5 LibInj.Xss

theorem xssLoop_safe (fuel : Nat) : ∀ (h : H) (attr : Nat), Inv h → NoLtEq h.s → SafeSt h.state → mu h < fuel →
    xssLoop h attr fuel = .ok false := by
  induction fuel with
  | zero => intro h _ _ _ _ hf; omega
  | succ fuel ih =>
    intro h attr hi hs hst hf
    refine xssLoop_cases (P := (· = .ok false)) h attr fuel hi rfl (fun h' hn hty => ?_) fun h' a hn hss hmu hinv =>
      ih h' a hinv (hss ▸ hs) (next_shape h hs hi hst true h' hn rfl).2 (by omega)
    rcases (next_shape h hs hi hst true h' hn rfl).1 with e | e | e | e <;> rw [e] at hty <;> simp at hty

theorem ctx_safe (s : Bytes) (hs : NoLtEq s) (ctx : Nat) (hctx : ctx = 0 ∨ ctx = 1) : isXSSCtx s ctx = .ok false := by
  have hst : SafeSt (init s ctx).state := by
    rcases hctx with rfl | rfl
    · exact Or.inr (Or.inr (Or.inr (Or.inr (Or.inl rfl))))
    · exact Or.inl rfl
  exact xssLoop_safe _ _ _ (init_inv s ctx) hs hst (Nat.lt_succ_of_le (mu_init_le s ctx))

/-- the quoted-value contexts: the initial attribute value is judged with no pending attribute -/
theorem ctx_quoted_safe (s : Bytes) (hs : NoLtEq s) (ctx : Nat) (hctx : 2 ≤ ctx) : isXSSCtx s ctx = .ok false := by
  -- the first step emits an attribute value and goes to a safe state
  have first : ∀ h', next (init s ctx) = .ok (true, h') → h'.tokType = .attrValue ∧ SafeSt h'.state := by
    intro h' hr
    have key : ∀ q, stateAttributeValueQuote q (init s ctx) = .ok (true, h') → h'.tokType = .attrValue ∧ SafeSt h'.state :=
      fun q => stateAttributeValueQuote_cases (P := fun r => r = .ok (true, h') → h'.tokType = .attrValue ∧ SafeSt h'.state)
        q (init s ctx) (Or.inr rfl)
        (fun p _ _ _ hq => by cases hq; exact ⟨rfl, by simp [SafeSt]⟩)
        (fun p i _ _ _ hq => by cases hq; exact ⟨rfl, by simp [SafeSt, emit]⟩)
    unfold next at hr
    match ctx, hctx with
    | 2, _ => exact key _ hr
    | 3, _ => exact key _ hr
    | n + 4, _ => exact key _ hr
  show xssLoop (init s ctx) 0 (3 * s.length + 3 + 1) = .ok false
  refine xssLoop_cases (P := (· = .ok false)) _ 0 _ (init_inv s ctx) rfl (fun h' hn hty => ?_) fun h' a hn hs' hmu hinv =>
    xssLoop_safe _ h' a hinv (hs' ▸ hs) (first h' hn).2 (by have := mu_init_le s ctx; omega)
  rw [(first h' hn).1] at hty
  simp at hty

/-- **C15.** An input that contains neither `<` nor `=` is never reported as XSS. -/
theorem no_lt_eq_not_xss (s : Bytes) (h1 : (60 : UInt8) ∉ s) (h2 : (61 : UInt8) ∉ s) : isXSS s = .ok false := by
  have hs : NoLtEq s := ⟨h1, h2⟩
  unfold isXSS
  simp only [ctx_safe s hs 0 (Or.inl rfl), ctx_safe s hs 1 (Or.inr rfl), ctx_quoted_safe s hs 2 (by omega),
    ctx_quoted_safe s hs 3 (by omega), ctx_quoted_safe s hs 4 (by omega), bind, Except.bind, 
    Bool.false_eq_true, ↓reduceIte]

theorem no_lt_eq_no_context (s : Bytes) (h1 : (60 : UInt8) ∉ s) (h2 : (61 : UInt8) ∉ s) (ctx : Nat) :
    isXSSCtx s ctx = .ok false := by
  have hs : NoLtEq s := ⟨h1, h2⟩
  rcases Nat.lt_or_ge ctx 2 with h | h
  · exact ctx_safe s hs ctx (by omega)
  · exact ctx_quoted_safe s hs ctx h

/-- non-vacuity: `' onclick javascript:alert(1)>` has quotes, an event name, a scheme and `>`, but no `<`/`=` -/
example : (60 : UInt8) ∉ [39, 32, 111, 110, 99, 108, 105, 99, 107, 32, 106, 97, 118, 97, 58, 62] ∧
    (61 : UInt8) ∉ [39, 32, 111, 110, 99, 108, 105, 99, 107, 32, 106, 97, 118, 97, 58, 62] := by decide

end LibInj.Properties.C15
