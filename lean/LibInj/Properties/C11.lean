import LibInj.Proofs.Case
import LibInj.Xss.IsXSS
import LibInj.Proofs.XssCase
import LibInj.Proofs.NulClass
import LibInj.Proofs.XssNul
import LibInj.Proofs.XssIns
/-! # C11 — XSS detection is insensitive to letter case and to NUL bytes inside names

**Proved for every pair of inputs (`xss_case_insensitive`, the letter-case clause of the property):**
if `s` and `s'` differ only in the case of ASCII letters and neither contains the marker `[CDATA[`
(the only case-sensitive one), then `isXSS s = isXSS s'`. The proof shows that every state function
of the HTML5 tokenizer commutes with lower-casing its input (`next_L` — the machine inspects letters
only through `isAlpha` and the `doctype` fold; every byte it searches for or compares with is a
non-letter), that the character-reference decoder consumes the same bytes and yields values equal up
to the case of a literal letter (`htmlDecodeByteAt_L`; the hex map is case-blind: table fact), that
the URL matcher, the comment tests and the classifiers are case-blind, and that the `isXSS` loop
therefore returns the same verdict (`xssLoop_L`).

Proved for every name (the classifiers are where names meet the black lists):

* `isBlackTag_case`, `isBlackAttr_case` — re-assigning the case of ASCII letters changes neither
  classification;
* `isBlackTag_nul`, `isBlackAttr_nul` — inserting a NUL byte anywhere in a name changes neither
  classification; for tags this needs the table fact that no black tag is shorter than 3 bytes
  (`black_tags_min_length`, re-checked on every build);
* `name_scan_nul` — a NUL is an ordinary name byte for both name scans.

**NUL clause, full statement (`nul_in_name`):** for every input, every start context and every offset
strictly inside a tag-name or attribute-name token of that input in that context, inserting a NUL byte at
that offset does not change the context's verdict. The runs on `a ++ b` and `a ++ 0 :: b` are followed in lock
step: a tokenizer step that ends before the insertion point is the same step on both inputs (`Proofs/H5Ins`,
`next_loc`: all 20 state functions never look past what they consume, except for look-ahead the same step
consumes); the step that emits the name token containing the insertion point emits it one byte longer and
resumes one byte later — the classifiers ignore NULs; from there both machines read the same suffix (shift
naturality, C13). Non-overlap of tokens (C17) turns "offset inside a name token" into that lock-step run.
`nul_in_first_element_name` is the statement for the first element name after `<`-free text alone; it also
allows the NUL directly behind the last byte of the name. -/
namespace LibInj.Properties.C11
open LibInj LibInj.Xss LibInj.H5

theorem isBlackTag_case (s s' : Bytes) (h : CaseEq s s') : isBlackTag s = isBlackTag s' := isBlackTag_caseEq s s' h

theorem isBlackAttr_case (s s' : Bytes) (h : CaseEq s s') : isBlackAttr s = isBlackAttr s' := isBlackAttr_caseEq s s' h

theorem isBlackAttr_nul (a b : Bytes) : isBlackAttr (a ++ 0 :: b) = isBlackAttr (a ++ b) := Xss.isBlackAttr_nul a b

theorem black_tags_min_length : Gen.blackTags.all (fun t => decide (3 ≤ t.length)) = true ∧ SVT.length = 3 ∧ XSL.length = 3 :=
  Xss.black_tags_min_length

theorem isBlackTag_nul (a b : Bytes) : isBlackTag (a ++ 0 :: b) = isBlackTag (a ++ b) := Xss.isBlackTag_nul a b

theorem name_scan_nul : tagNameByte 0 = true ∧ attrNameByte 0 = true := by decide

def xss_case_insensitive_statement : Prop :=
  ∀ (s s' : Bytes), CaseEq s s' → (∀ i, (s.drop i).take 7 ≠ [91, 67, 68, 65, 84, 65, 91]) →
    (∀ i, (s'.drop i).take 7 ≠ [91, 67, 68, 65, 84, 65, 91]) → isXSS s = isXSS s'

example : CaseEq [83, 99, 82, 105, 112, 116] [115, 67, 114, 73, 80, 84] ∧ isBlackTag [83, 99, 0, 82, 105, 112, 116] = true := by
  constructor
  · unfold CaseEq; decide
  · decide +kernel

/-- **C11, NUL clause, first element name.** -/
theorem nul_in_first_element_name (p n1 n2 rest : Bytes) (hp : (60 : UInt8) ∉ p) (h1 : n1 ≠ []) (hn : NameAt (n1 ++ n2) rest) :
    isXSSCtx (p ++ 60 :: ((n1 ++ 0 :: n2) ++ rest)) 0 = isXSSCtx (p ++ 60 :: ((n1 ++ n2) ++ rest)) 0 :=
  nul_first_tag p n1 n2 rest hp h1 hn

/-- the NUL clause of C11 at full strength -/
def nul_in_name_statement : Prop :=
  ∀ (s : Bytes) (ctx : Nat) (ts : List Tok), tokens s ctx = .ok ts → ∀ t ∈ ts,
    (t.ty = .tagNameOpen ∨ t.ty = .tagClose ∨ t.ty = .attrName) →
    ∀ m, t.off < m → m < t.off + t.len → isXSSCtx (s.take m ++ 0 :: s.drop m) ctx = isXSSCtx s ctx

/-- **C11, NUL clause: full statement.** -/
theorem nul_in_name : nul_in_name_statement :=
  fun s ctx ts hts t ht hname m hlo hhi => nul_in_name_token s ctx ts hts t ht hname m hlo hhi

def tokEq : M (List Tok) → List Tok → Bool
  | .ok a, b => a == b
  | _, _ => false

theorem tokEq_sound (r : M (List Tok)) (ts : List Tok) (h : tokEq r ts = true) : r = .ok ts := by
  cases r with
  | error e => cases h
  | ok a => simp only [tokEq, beq_iff_eq] at h; rw [h]

theorem isOkTrue_sound (r : M Bool) (h : isOkTrue r = true) : r = .ok true := by
  cases r with
  | error e => cases h
  | ok v => cases v <;> first | rfl | cases h

/-- non-vacuity: in `<a onclick=x>` (element content) the attribute name is the token at offset 3 of length 7;
a NUL after `on` leaves the verdict unchanged — and the verdict is `true` -/
example : isXSSCtx [60, 97, 32, 111, 110, 0, 99, 108, 105, 99, 107, 61, 120, 62] 0 = .ok true := by
  have h := nul_in_name [60, 97, 32, 111, 110, 99, 108, 105, 99, 107, 61, 120, 62] 0
    [⟨.tagNameOpen, 1, 1⟩, ⟨.attrName, 3, 7⟩, ⟨.attrValue, 11, 1⟩, ⟨.tagNameClose, 12, 1⟩] (tokEq_sound _ _ (by decide +kernel))
    ⟨.attrName, 3, 7⟩ (by simp) (Or.inr (Or.inr rfl)) 5 (by decide) (by decide)
  rw [show List.take 5 [60, 97, 32, 111, 110, 99, 108, 105, 99, 107, 61, 120, 62] ++ 0 :: List.drop 5 [60, 97, 32, 111, 110, 99, 108, 105, 99, 107, 61, 120, 62]
      = ([60, 97, 32, 111, 110, 0, 99, 108, 105, 99, 107, 61, 120, 62] : Bytes) from rfl] at h
  rw [h]
  exact isOkTrue_sound _ (by decide +kernel)

/-- **C11, letter case: full clause.** -/
theorem xss_case_insensitive (s s' : Bytes) (h : CaseEq s s') (hno : NoCdata s) (hno' : NoCdata s') :
    isXSS s = isXSS s' := isXSS_case_insensitive s s' h hno hno'

theorem tokenizer_step_case (h : H) (hno : NoCdata h.s) : next (lowerH h) = mapR (next h) := next_L h hno

/-- non-vacuity: `<ScRiPt>` and `<script>` are case variants without a CDATA marker -/
example : CaseEq [60, 83, 99, 82, 105, 80, 116, 62] [60, 115, 99, 114, 105, 112, 116, 62] := by
  show List.map lowerAscii _ = List.map lowerAscii _
  decide

end LibInj.Properties.C11
