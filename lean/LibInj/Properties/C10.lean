import LibInj.Proofs.Case
import LibInj.Proofs.LexOK
import LibInj.Sqli.Check
import LibInj.Proofs.SqlCase
/-! # C10 — SQLi detection is insensitive to ASCII letter case

Proved: every place where the pipeline *compares letters* is invariant under ASCII case
re-assignment —

* `searchKeyword_case` — keyword / phrase / fingerprint look-up (via `goUpper_case_invariant`);
* `toUpperCmp_case` — the literal comparisons of `fold`/`isUnaryOp`/`notWhitelist` (`NOT`, `IN`,
  `LIKE`, `USER`, `INTO`, the eleven function names);
* `dispatch_case` — both cases of every letter are routed to the same lexer (table fact over the
  regenerated dispatch table);
* `fpKey_case` — the blacklist key `"0" ++ upper fingerprint`;
* `scan_predicates_case` — the byte classes of the scans (word/variable delimiters, digits, hex digits,
  letters, white space) do not separate the two cases of a letter.

The exempt positions are exactly where the code compares a letter case-sensitively: `\N`
(`parseBackSlash`), dollar-quote tags (`strings.Index` with the raw tag), q-string delimiters, and
the marker `sp_password` (`strings.Contains`).

`sqli_case_insensitive` closes the full statement on the model (`Proofs/SqlCase`: every stage commutes
with lower-casing). The case re-assignment oracle (exhaustive for ≤ 10 letters per input in the thorough
tier) checks the same statement on the real package. -/
namespace LibInj.Properties.C10
open LibInj LibInj.Sqli

theorem searchKeyword_case (w w' : Bytes) (h : CaseEq w w') : searchKeyword w = searchKeyword w' := by
  rw [← searchKeyword_L w, ← searchKeyword_L w', show H5.L w = H5.L w' from h]

theorem toUpperCmp_case (lit w w' : Bytes) (h : CaseEq w w') : toUpperCmp lit w = toUpperCmp lit w' := by
  rw [← toUpperCmp_L lit w, ← toUpperCmp_L lit w', show H5.L w = H5.L w' from h]

theorem fpKey_case (f f' : Bytes) (h : CaseEq f f') : fpKey f = fpKey f' := by
  unfold fpKey
  have e : ∀ l : Bytes, l.map upperAscii = (l.map lowerAscii).map upperAscii := by
    intro l; rw [List.map_map]; congr 1; funext c; exact (upper_lower c).symm
  rw [e f, e f', show f.map lowerAscii = f'.map lowerAscii from h]

theorem lower_of_upper (c : UInt8) (h : isUpperAscii c = true) : lowerAscii c = c + 32 := by
  simp [lowerAscii, h]

/-- table fact: an upper-case letter and its lower-case form are dispatched to the same lexer -/
theorem dispatch_case (c : UInt8) (h : isUpperAscii c = true) : dispatch c = dispatch (c + 32) := by
  rw [← lower_of_upper c h, q_dispatch]

/-- the scan predicates do not separate the two cases of a letter -/
theorem scan_predicates_case (c : UInt8) (h : isUpperAscii c = true) :
    notWordAccept c = notWordAccept (c + 32) ∧ notVarAccept c = notVarAccept (c + 32) ∧
    isDigit c = isDigit (c + 32) ∧ isHexDigit c = isHexDigit (c + 32) ∧ isLetter c = isLetter (c + 32) ∧
    isWhite c = isWhite (c + 32) := by
  rw [← lower_of_upper c h]
  exact ⟨(q_notWord c).symm, (q_notVar c).symm, (q_digit c).symm, (q_hex c).symm, (q_letter c).symm, (q_white c).symm⟩

/-- C10 at full strength. The four hypotheses are exactly the exempt positions of the property: the byte
after a backslash is not `N`/`n` (the `\N` literal), a `$` is not followed by a letter (dollar-quote tag),
the delimiter of a `q'…'` string is not a letter, and no case variant of `sp_password` occurs. -/
def sqli_case_insensitive_statement : Prop :=
  ∀ (s s' : Bytes), CaseEq s s' →
    (∀ i : Nat, s[i]? = some (92 : UInt8) → s[i+1]? ≠ some (78 : UInt8) ∧ s[i+1]? ≠ some (110 : UInt8)) →
    (∀ i : Nat, s[i]? = some (36 : UInt8) → ∀ c, s[i+1]? = some c → isLetter c = false) →
    (∀ i : Nat, (s[i]? = some (113 : UInt8) ∨ s[i]? = some (81 : UInt8)) → s[i+1]? = some (39 : UInt8) →
      ∀ c, s[i+2]? = some c → isLetter c = false) →
    ¬ contains (s.map lowerAscii) spPassword = true →
    isSQLi s = isSQLi s'

/-- **C10: verdict and fingerprint are invariant under any re-assignment of ASCII letter case outside
the exempt positions.** Proved by showing that every stage of the pipeline (the 22 lexers, `tokenize`,
the fold rules, the loops, `fingerprint`, the whitelist, the five-context cascade) commutes with
lower-casing the input and the token values (`Proofs/SqlCase`). -/
theorem sqli_case_insensitive : sqli_case_insensitive_statement := by
  intro s s' heq h1 h2 h3 h4
  exact isSQLi_of_lower_eq s s' heq h1 h2 h3 (eq_false_of_ne_true h4)

/-- the model's `isSQLi` on an input and on its lower-cased form -/
theorem sqli_lowercase_normal_form (s : Bytes) (hok : CaseOK s) (hsp : contains (H5.L s) spPassword = false) :
    isSQLi (H5.L s) = isSQLi s := isSQLi_L s hok hsp

/-- non-vacuity: an input with a money literal, a bracketed q-string and an escaped quote meets the
hypotheses; its verdict is decided by the kernel -/
example : CaseOK (bs "1 UnIoN SeLeCt $1, q'[x]', 'a\\'b'") := by
  apply caseOKb_sound; decide +kernel

example : CaseEq [85, 110, 73, 111, 78] [117, 78, 105, 79, 110] ∧ searchKeyword [85, 110, 73, 111, 78] = 85 := by
  constructor
  · unfold CaseEq; decide
  · decide +kernel

end LibInj.Properties.C10
