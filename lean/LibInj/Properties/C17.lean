import LibInj.Proofs.H5Good
import LibInj.Proofs.H5Term
import LibInj.Proofs.H5Order
/-! # C17 — HTML tokens stay inside the input, in order; constructs end at their first terminator

Proved for every input and start context: the tokenizer stops, every token lies inside the input
(`tokens_inside_input`), the scan offset never moves back and every emitting step makes progress
(`step_progress`), **there are at most `|s|+1` tokens and consecutive tokens never overlap**
(`order_and_count`: every state has a lower bound for the start of its next token and a potential
`|s| - bound + credit`; each emitting step puts its token between the old and the new bound and lowers
the potential — `Proofs/H5Order`). First-terminator
refinements proved here: `<! .. >`, `<? .. >`, `</! .. >` (bogus comment) and doctype end at the
first `>` and resume right after it (`bogus_comment_first_gt`, `doctype_first_gt`); a quoted
attribute value ends at the first matching quote (`quoted_value_first_quote`); **`<![CDATA[ .. ]]>`
ends at the first `]]>`, `<% .. %>` at the first `%>`, `<!-- ..` at the first `-` NUL* (`-`|`!`) `>`**
(`cdata_first_terminator`, `percent_first_terminator`, `comment_first_terminator`): the token spans
exactly the bytes from the scan offset to the terminator, the scan resumes right after it, and with no
terminator the token runs to end of input. Every delimited construct of the property thus has its
first-terminator theorem; together with `order_and_count` that is the full statement of C17 on the model.
`token_count_partial` is the coarser bound `3|s|+3` that the termination measure of C02 gives directly. -/
namespace LibInj.Properties.C17
open LibInj LibInj.H5

theorem tokens_inside_input (s : Bytes) (ctx : Nat) :
    ∃ ts, tokens s ctx = .ok ts ∧ ∀ t ∈ ts, t.off + t.len ≤ s.length := by
  obtain ⟨ts, h1, h2, _⟩ := tokens_total s ctx
  exact ⟨ts, h1, h2⟩

theorem token_count_partial (s : Bytes) (ctx : Nat) :
    ∃ ts, tokens s ctx = .ok ts ∧ ts.length ≤ 3 * s.length + 3 := by
  obtain ⟨ts, h1, _, h3⟩ := tokens_total s ctx
  exact ⟨ts, h1, h3⟩

theorem step_progress (h : H) (hi : Inv h) :
    ∃ b h', next h = .ok (b, h') ∧ h'.s = h.s ∧
      (b = true → mu h' < mu h ∧ Inv h' ∧ h'.tokStart + h'.tokLen ≤ h.s.length ∧ h.pos ≤ h'.pos) :=
  next_spec h hi

/-- **bogus comment** (`<! ..`, `<? ..`, `</! ..`): the token spans exactly the bytes before the first
`>` (or the rest of the input) and tokenizing resumes right after that `>` -/
theorem bogus_comment_first_gt (h : H) (hp : h.pos ≤ h.s.length) :
    (∀ i, indexByte (h.s.drop h.pos) 62 = some i →
      ∃ h', stateBogusComment h = .ok (true, h') ∧ h'.tokStart = h.pos ∧ h'.tokLen = i ∧
        h'.pos = h.pos + i + 1 ∧ h'.state = .data ∧ h'.tokType = .tagComment ∧
        h.s[h.pos + i]? = some 62 ∧ ∀ j < i, h.s[h.pos + j]? ≠ some 62) ∧
    (indexByte (h.s.drop h.pos) 62 = none →
      ∃ h', stateBogusComment h = .ok (true, h') ∧ h'.tokStart = h.pos ∧ h'.tokLen = h.s.length - h.pos ∧
        h'.state = .eof ∧ (62 : UInt8) ∉ h.s.drop h.pos) := by
  constructor
  · intro i hi
    unfold stateBogusComment
    simp only [offFrom_ok hp, hi, bind, Except.bind, pure, Except.pure]
    refine ⟨_, rfl, rfl, rfl, rfl, rfl, rfl, ?_⟩
    have := (indexByte_some_iff _ _ _).mp hi
    simp only [List.getElem?_drop] at this
    exact this
  · intro hn
    unfold stateBogusComment
    simp only [offFrom_ok hp, hn, bind, Except.bind, pure, Except.pure]
    exact ⟨_, rfl, rfl, rfl, rfl, (indexByte_none_iff _ _).mp hn⟩

theorem doctype_first_gt (h : H) (hp : h.pos ≤ h.s.length) (i : Nat) (hi : indexByte (h.s.drop h.pos) 62 = some i) :
    ∃ h', stateDoctype h = .ok (true, h') ∧ h'.tokStart = h.pos ∧ h'.tokLen = i ∧ h'.pos = h.pos + i + 1 ∧
      h'.tokType = .docType ∧ h.s[h.pos + i]? = some 62 ∧ ∀ j < i, h.s[h.pos + j]? ≠ some 62 := by
  unfold stateDoctype
  simp only [offFrom_ok hp, hi, bind, Except.bind, pure, Except.pure]
  refine ⟨_, rfl, rfl, rfl, rfl, rfl, ?_⟩
  have := (indexByte_some_iff _ _ _).mp hi
  simp only [List.getElem?_drop] at this
  exact this

/-- **quoted attribute value** (inside a tag, `pos` at the opening quote): ends at the first matching quote -/
theorem quoted_value_first_quote (q : UInt8) (h : H) (h0 : 0 < h.pos) (hp : h.pos < h.s.length) (i : Nat)
    (hi : indexByte (h.s.drop (h.pos + 1)) q = some i) :
    ∃ h', stateAttributeValueQuote q h = .ok (true, h') ∧ h'.tokStart = h.pos + 1 ∧ h'.tokLen = i ∧
      h'.pos = h.pos + 1 + i + 1 ∧ h'.tokType = .attrValue ∧ ∀ j < i, h.s[h.pos + 1 + j]? ≠ some q := by
  unfold stateAttributeValueQuote
  simp only [h0, ↓reduceIte, offFrom_ok (show h.pos + 1 ≤ h.s.length by omega), hi, bind, Except.bind, pure, Except.pure]
  refine ⟨_, rfl, rfl, rfl, rfl, rfl, ?_⟩
  have := ((indexByte_some_iff _ _ _).mp hi).2
  simp only [List.getElem?_drop] at this
  exact this

/-- the order / sharp-count clauses of C17, full statement -/
def order_and_count_statement : Prop :=
  ∀ (s : Bytes) (ctx : Nat) (ts : List Tok), tokens s ctx = .ok ts →
    ts.length ≤ s.length + 1 ∧ ∀ i, ∀ h : i + 1 < ts.length, ts[i].off + ts[i].len ≤ ts[i+1].off

/-- **C17, order and count.** -/
theorem order_and_count : order_and_count_statement :=
  fun s ctx ts h => tokens_order_count s ctx ts h

example : (match tokens [60,33,97,62,98] 0 with | .ok [t1, t2] => t1.off == 2 && t1.len == 1 && t2.off == 4 | _ => false) = true := by
  decide +kernel

/-- **`<![CDATA[ .. ]]>`** ends at the first `]]>` -/
theorem cdata_first_terminator (h : H) (hp : h.pos ≤ h.s.length) :
    (∀ i, Term3 h.s 93 93 62 i → h.pos ≤ i → (∀ j, h.pos ≤ j → j < i → ¬ Term3 h.s 93 93 62 j) →
      stateCData h = foundAt h .dataText i 3) ∧
    ((∀ i, h.pos ≤ i → ¬ Term3 h.s 93 93 62 i) → stateCData h = ranOut h .dataText) :=
  LibInj.H5.cdata_first_terminator h hp

/-- **`<% .. %>`** ends at the first `%>` -/
theorem percent_first_terminator (h : H) (hp : h.pos ≤ h.s.length) :
    (∀ i, Term2 h.s 37 62 i → h.pos ≤ i → (∀ j, h.pos ≤ j → j < i → ¬ Term2 h.s 37 62 j) →
      stateBogusComment2 h = foundAt h .tagComment i 2) ∧
    ((∀ i, h.pos ≤ i → ¬ Term2 h.s 37 62 i) → stateBogusComment2 h = ranOutEnd h .tagComment) :=
  LibInj.H5.percent_first_terminator h hp

/-- **`<!-- .. -->` / `-!>`**, NULs tolerated after the first dash: ends at the first terminator -/
theorem comment_first_terminator (h : H) (hp : h.pos ≤ h.s.length) :
    (∀ i n, ComEnd h.s i n → h.pos ≤ i → (∀ j m, h.pos ≤ j → j < i → ¬ ComEnd h.s j m) →
      stateComment h = foundAt h .tagComment i (n + 3)) ∧
    ((∀ i n, h.pos ≤ i → ¬ ComEnd h.s i n) → stateComment h = ranOut h .tagComment) :=
  LibInj.H5.comment_first_terminator h hp

/-- non-vacuity: `a-\0\0->b` has a terminator at offset 1 with two NULs, none before -/
example : ComEnd [97, 45, 0, 0, 45, 62, 98] 1 2 := by
  refine ⟨rfl, fun k hk => ?_, Or.inl rfl, rfl⟩
  match k, hk with
  | 0, _ => rfl
  | 1, _ => rfl

/-- non-vacuity, kernel-evaluated: the comment of `<!--a-\0\0->b` is `a` (offset 4, length 1) -/
example : (match tokens [60, 33, 45, 45, 97, 45, 0, 0, 45, 62, 98] 0 with
    | .ok (t :: _) => t.off == 4 && t.len == 1
    | _ => false) = true := by decide +kernel

end LibInj.Properties.C17
