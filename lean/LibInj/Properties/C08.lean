import LibInj.Proofs.Tables
import LibInj.Proofs.FpTable
import LibInj.Properties.C12
import LibInj.Properties.C01
/-! # C08 — verdict and fingerprint returned by IsSQLi are mutually consistent

**Proved for every input (`verdict_fp_consistent`, the full statement):** a false verdict comes with
the empty fingerprint; a true verdict comes with a fingerprint of 1..5 bytes, each a documented token
class character, that is blacklisted (`"0" ++ upper f` has class `F` in the regenerated table) and is
the fingerprint of the input under one of the five contexts tried.

The alphabet clause combines the invariant "every token class in the window is 0 or a class character"
(through all lexers, `fold` and `sqliFingerprint`: `fingerprint_ok`) with the table fact that every
`F` key is `0` + 1..5 upper-cased class characters (`kw_wf`, re-checked on every build): a 0 byte in
the fingerprint would put a 0 byte into the key. `blacklisted_key_shape` additionally records that the
comment class occurs only in last position of a blacklisted key. -/
namespace LibInj.Properties.C08
open LibInj LibInj.Sqli LibInj.Tables LibInj.Properties.C12

def contexts : List Nat := [asisAnsi, asisMysql, singleAnsi, singleMysql, doubleMysql]

/-- `f` is blacklisted: non-empty and `"0" ++ upper f` has the fingerprint class in the table -/
def Blacklisted (f : Bytes) : Prop := f ≠ [] ∧ searchKeyword (fpKey f) = 70

theorem pass_true (s : Bytes) (F : Nat) (f : Bytes) (r : Bool) (h : pass s F = .ok (true, f, r)) :
    Blacklisted f ∧ ∃ st, fingerprint s F = .ok st ∧ st.fingerprint = f := by
  unfold pass at h
  obtain ⟨st, hf, h⟩ := bind_ok h
  obtain ⟨v, hc, h⟩ := bind_ok h
  cases h
  refine ⟨?_, st, hf, rfl⟩
  unfold checkFingerprint at hc
  by_cases hb : blacklist st = true
  · unfold blacklist at hb
    split at hb
    · cases hb
    · rename_i hlen
      refine ⟨?_, by simpa using hb⟩
      intro hnil
      simp [hnil] at hlen
  · simp [hb, pure, Except.pure] at hc

theorem gated_true (g : Bool) (p : M (Bool × Bytes × Bool)) (f : Bytes) (r : Bool)
    (h : gated g p = .ok (true, f, r)) : p = .ok (true, f, r) := by
  cases g with
  | true => simpa [gated] using h
  | false => simp [gated, noPass, pure, Except.pure] at h

/-- one step of the cascade: a reading either fires with its own fingerprint or hands over -/
theorem step_ok (p : M (Bool × Bytes × Bool)) (k : Bool × Bytes × Bool → M (Bool × Bytes)) (b : Bool) (f : Bytes)
    (h : (do let a ← p; if a.1 then return (true, a.2.1) else k a) = .ok (b, f)) :
    (∃ r, p = .ok (true, f, r) ∧ b = true) ∨ (∃ a, k a = .ok (b, f)) := by
  obtain ⟨⟨a1, a2, a3⟩, hp, h⟩ := bind_ok h
  cases a1 with
  | true =>
    cases h
    exact Or.inl ⟨a3, hp, rfl⟩
  | false => exact Or.inr ⟨_, h⟩

/-- verdict/fingerprint relation without the alphabet clause -/
theorem verdict_fp_consistent_partial (s : Bytes) (b : Bool) (f : Bytes) (h : isSQLi s = .ok (b, f)) :
    (b = false → f = []) ∧
    (b = true → Blacklisted f ∧ ∃ F ∈ contexts, ∃ st, fingerprint s F = .ok st ∧ st.fingerprint = f) := by
  have fire : ∀ F ∈ contexts, ∀ r, pass s F = .ok (true, f, r) → b = true →
      (b = false → f = []) ∧
      (b = true → Blacklisted f ∧ ∃ F ∈ contexts, ∃ st, fingerprint s F = .ok st ∧ st.fingerprint = f) := by
    intro F hF r hp hb
    have := pass_true s F f r hp
    exact ⟨fun hb' => (by rw [hb] at hb'; cases hb'), fun _ => ⟨this.1, F, hF, this.2⟩⟩
  unfold isSQLi at h
  by_cases hlen : (s.length == 0) = true
  · simp [hlen, pure, Except.pure] at h
    obtain ⟨rfl, rfl⟩ := h
    simp
  · simp only [hlen, Bool.false_eq_true, ↓reduceIte] at h
    rcases step_ok _ _ b f h with ⟨r, hp, hb⟩ | ⟨_, h⟩
    · exact fire asisAnsi (by simp [contexts]) r hp hb
    rcases step_ok _ _ b f h with ⟨r, hp, hb⟩ | ⟨_, h⟩
    · exact fire asisMysql (by simp [contexts]) r (gated_true _ _ _ _ hp) hb
    rcases step_ok _ _ b f h with ⟨r, hp, hb⟩ | ⟨_, h⟩
    · exact fire singleAnsi (by simp [contexts]) r (gated_true _ _ _ _ hp) hb
    rcases step_ok _ _ b f h with ⟨r, hp, hb⟩ | ⟨_, h⟩
    · exact fire singleMysql (by simp [contexts]) r (gated_true _ _ _ _ hp) hb
    rcases step_ok _ _ b f h with ⟨r, hp, hb⟩ | ⟨_, h⟩
    · exact fire doubleMysql (by simp [contexts]) r (gated_true _ _ _ _ hp) hb
    simp only [pure, Except.pure, Except.ok.injEq, Prod.mk.injEq] at h
    obtain ⟨rfl, rfl⟩ := h
    simp

theorem kw_wf : Gen.keywords.all kwOK = true := LibInj.Sqli.kw_wf
theorem kw_comment : Gen.keywords.all commentOnlyLast = true := LibInj.Sqli.kw_comment

/-- table fact: a key with class `F` is `0` followed by 1..5 upper-cased class characters, the
comment class only in last position (`kwOK`, `commentOnlyLast` of C20, restated for the matched key) -/
theorem blacklisted_key_shape (l n : Nat) (h : lookupKw l n = some 70) :
    2 ≤ l ∧ l ≤ 6 ∧ fpBytes (l - 1) n = true ∧ noByte 67 (l - 1) (n / 256) = true :=
  LibInj.Sqli.blacklisted_key_shape l n h

/-- **a blacklisted fingerprint over class-or-0 bytes has 1..5 bytes, all class characters** -/
theorem blacklisted_alphabet (fp : Bytes) (hcls : ∀ c ∈ fp, c = 0 ∨ isClassU8 c = true)
    (hb : searchKeyword (fpKey fp) = 70) :
    1 ≤ fp.length ∧ fp.length ≤ 5 ∧ ∀ c ∈ fp, isClassU8 c = true :=
  LibInj.Sqli.blacklisted_alphabet fp hcls hb

/-- the bytes of a computed fingerprint are class characters or 0 -/
theorem fingerprint_classes (s : Bytes) (F : Nat) (st : State) (h : fingerprint s F = .ok st) :
    ∀ c ∈ st.fingerprint, c = 0 ∨ isClassU8 c = true := by
  obtain ⟨st', h', _, hfp⟩ := fingerprint_ok s F
  rw [h] at h'
  cases h'
  rcases hfp with hX | ⟨hw, n, _, hfpn, _⟩
  · intro c hc; rw [hX] at hc
    have : c = 88 := by simpa using hc
    rw [this]; right; decide
  · intro c hc
    rw [hfpn] at hc
    obtain ⟨t, ht, rfl⟩ := List.mem_map.mp hc
    exact (hw.2 t (List.mem_of_mem_take ht)).2

/-- **C08, full statement.** -/
theorem verdict_fp_consistent (s : Bytes) (b : Bool) (f : Bytes) (h : isSQLi s = .ok (b, f)) :
    (b = false → f = []) ∧
    (b = true → Blacklisted f ∧ 1 ≤ f.length ∧ f.length ≤ 5 ∧ (∀ c ∈ f, isClassU8 c = true) ∧
      ∃ F ∈ contexts, ∃ st, fingerprint s F = .ok st ∧ st.fingerprint = f) := by
  obtain ⟨h1, h2⟩ := verdict_fp_consistent_partial s b f h
  refine ⟨h1, fun hb => ?_⟩
  obtain ⟨hbl, F, hF, st, hst, hfp⟩ := h2 hb
  have hcls := fingerprint_classes s F st hst
  rw [hfp] at hcls
  obtain ⟨a1, a2, a3⟩ := blacklisted_alphabet f hcls hbl.2
  exact ⟨hbl, a1, a2, a3, F, hF, st, hst, hfp⟩

/-- the verdict exists for every input (C01), so the statement above is never vacuous -/
theorem verdict_exists (s : Bytes) : ∃ b f, isSQLi s = .ok (b, f) := by
  obtain ⟨r, hr⟩ := LibInj.Properties.C01.isSQLi_total s
  exact ⟨r.1, r.2, hr⟩

/-- non-vacuity: the classic `s&1` is blacklisted in the regenerated table -/
example : lookupKw 4 0x30532631 = some 70 := by decide +kernel

end LibInj.Properties.C08
