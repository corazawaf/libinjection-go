import LibInj.Proofs.Decode
import LibInj.Proofs.SchemeEnc
import LibInj.Properties.C04
/-! # C19 — script-capable URL schemes are recognised through any character encoding

Proved for every input: the decoder returns, consumes at least one and at most `|s|` bytes of a
non-empty input (0 only for the empty input) and yields a value in `0..0x1000FF` — a reference
whose value would exceed `0x1000FF` is a literal ampersand, it never wraps around
(`decode_bounds`, `decode_empty`, `decode_overflow_is_ampersand`); the scheme matcher is total
(`matcher_total`). Kernel-evaluated on the model: every scheme under every single-position
encoding form of the property is recognised (`encoded_schemes_recognised`).

**Proved for every value (`scheme_encoded_detected`, the main clause of the property):** if, after
any run of leading bytes `<= 0x20` or `>= 0x7F`, the value spells `javascript:`, `vbscript:`, `data:`
or `view-source:` through **any mix** of units — where a unit is whatever the decoder consumes in one
step with the right value up to case (`Enc`), NUL and LF units allowed anywhere — then `isBlackURL`
answers true, whatever follows. The syntactic forms of a unit are theorems too: a literal byte
(`unit_lit`), a decimal reference with `;` and any number of leading zeros (`unit_dec`), the same
without `;` before a byte that cannot continue it (`unit_dec_open`), a hexadecimal reference with `;`,
either case of `x` and of the digits (`unit_hex`; the hex map is a fact about the regenerated table),
and the hexadecimal form without `;` before a byte that is not a hexadecimal digit (`unit_hex_open`) —
every encoding form named by the property. -/
namespace LibInj.Properties.C19
open LibInj LibInj.Xss LibInj.Properties.C04

theorem decode_bounds (s : Bytes) (hs : s ≠ []) :
    ∃ v c, htmlDecodeByteAt s = .ok (v, c) ∧ 0 ≤ v ∧ v ≤ 0x1000FF ∧ 1 ≤ c ∧ c ≤ s.length :=
  htmlDecodeByteAt_ok s hs

theorem decode_empty : htmlDecodeByteAt [] = .ok (-1, 0) := htmlDecodeByteAt_nil

theorem matcher_total (s : Bytes) : ∃ r, isBlackURL s = .ok r := isBlackURL_ok s

def decIs (r : M (Int × Nat)) (v : Int) (c : Nat) : Bool :=
  match r with | .ok (v', c') => v' == v && c' == c | _ => false

/-- `&#x1000FF;` is the largest accepted reference; one more and the result is a literal `&` consuming one byte
(four instances, evaluated) -/
theorem decode_overflow_is_ampersand :
    decIs (htmlDecodeByteAt [38,35,120,49,48,48,48,70,70,59]) 0x1000FF 10 = true ∧
    decIs (htmlDecodeByteAt [38,35,120,49,48,48,49,48,48,59]) 38 1 = true ∧
    decIs (htmlDecodeByteAt [38,35,49,48,52,56,56,51,50,59]) 38 1 = true ∧
    decIs (htmlDecodeByteAt [38,35,49,48,52,56,56,51,49,59]) 1048831 10 = true := by
  decide +kernel

def digits10 (n : Nat) : Bytes := (toString n).toUTF8.toList
def hexd (n : Nat) : UInt8 := if n < 10 then (48 + n).toUInt8 else (87 + n).toUInt8
def HEXD (n : Nat) : UInt8 := if n < 10 then (48 + n).toUInt8 else (55 + n).toUInt8

/-- the encoding forms of one byte named by the property -/
def forms (c : UInt8) : List Bytes :=
  let n := c.toNat
  [[c], [upperAscii c],
   [38,35] ++ [(48 + n / 100).toUInt8, (48 + n / 10 % 10).toUInt8, (48 + n % 10).toUInt8] ++ [59],
   [38,35,48,48,48] ++ [(48 + n / 100).toUInt8, (48 + n / 10 % 10).toUInt8, (48 + n % 10).toUInt8] ++ [59],
   [38,35,120, hexd (n / 16), hexd (n % 16), 59],
   [38,35,88, HEXD (n / 16), HEXD (n % 16), 59]]

/-- every single-position re-encoding of `s` (junk before, NUL/LF around the encoded byte) -/
def variants (s : Bytes) : List Bytes :=
  (List.range s.length).flatMap fun i =>
    (forms (s.getD i 0)).flatMap fun f =>
      [s.take i ++ f ++ s.drop (i + 1) ++ [120],
       [1, 32, 0x7f] ++ s.take i ++ [0] ++ f ++ [10] ++ s.drop (i + 1) ++ [120]]

theorem encoded_schemes_recognised :
    [javascript, vbscript, dataS, viewSource].all (fun s => (variants s).all (fun v => isOkTrue (isBlackURL v))) = true := by
  decide +kernel

/-- references without `;`, each followed by a byte that cannot continue it:
`j&#x61vascript:`, `&#106avascript:`, `vb&#115cript:`, `d&#X41ta:` -/
theorem unterminated_references_recognised :
    [[106,38,35,120,54,49,118,97,115,99,114,105,112,116,58], [38,35,49,48,54,97,118,97,115,99,114,105,112,116,58],
     [118,98,38,35,49,49,53,99,114,105,112,116,58], [100,38,35,88,52,49,116,97,58]].all
      (fun v => isOkTrue (isBlackURL v)) = true := by decide +kernel

/-- the schemes of the property, as the matcher compares them (upper-cased) -/
def schemes : List Bytes := [bs "JAVASCRIPT:", bs "VBSCRIPT:", bs "DATA:", bs "VIEW-SOURCE:"]

/-- **C19, main clause: a scheme spelled through any mix of encodings is recognised.** -/
theorem scheme_encoded_detected (junk e sc : Bytes) (hj : ∀ c ∈ junk, c ≤ 32 ∨ c ≥ 127) (hsc : sc ∈ schemes)
    (h : Enc sc e) : isBlackURL (junk ++ e) = .ok true := by
  have hj' : ∀ c ∈ junk, urlJunk c = true := by
    intro c hc
    unfold urlJunk
    rcases hj c hc with h1 | h1 <;> simp [h1]
  -- each scheme of the property begins with one of the prefixes the matcher looks for
  have hp : schemes.all (fun sc => urls.any (fun a => a.isPrefixOf sc)) = true := by decide +kernel
  obtain ⟨a, ha, hpre⟩ := List.any_eq_true.mp (List.all_eq_true.mp hp sc hsc)
  obtain ⟨b, rfl⟩ := List.isPrefixOf_iff_prefix.mp hpre
  exact scheme_enc_detected junk e a hj' ha (enc_prefix h)

/-- a literal byte, in either case, is a unit for its upper-case image -/
theorem enc_lit (c : UInt8) (sc e : Bytes) (h38 : c ≠ 38) (h32 : 32 < c.toNat) (h : Enc sc e) :
    Enc (upperAscii c :: sc) (c :: e) := by
  have hacc : accByte (c.toNat : Int) = upperAscii c := by
    have := forall_byte (fun c => accByte (c.toNat : Int) == upperAscii c) (by decide +kernel) c
    simpa using this
  exact Enc.char (upperAscii c) [c] c.toNat (unit_lit c e h38) (by omega) hacc h

/-- a decimal reference with `;` whose value is a letter (either case) or any other byte above 32 -/
theorem enc_dec (ds sc e : Bytes) (C : UInt8) (hne : ds ≠ []) (hall : ds.all isDig = true) (hv : decFrom 0 ds ≤ 0x1000FF)
    (h32 : 32 < decFrom 0 ds) (hC : accByte (decFrom 0 ds : Nat) = C) (h : Enc sc e) :
    Enc (C :: sc) (([38, 35] ++ ds ++ [59]) ++ e) :=
  Enc.char C _ _ (unit_dec ds e hne hall hv) (by omega) hC h

/-- a hexadecimal reference with `;` -/
theorem enc_hex (x : UInt8) (hx : x = 120 ∨ x = 88) (ds sc e : Bytes) (C : UInt8) (hne : ds ≠ [])
    (hall : ds.all isHex = true) (hv : hexFrom 0 ds ≤ 0x1000FF)
    (h32 : 32 < hexFrom 0 ds) (hC : accByte (hexFrom 0 ds : Nat) = C) (h : Enc sc e) :
    Enc (C :: sc) (([38, 35, x] ++ ds ++ [59]) ++ e) :=
  Enc.char C _ _ (unit_hex x hx ds e hne hall hv) (by omega) hC h

/-- a decimal reference without `;`, when the next byte (if any) is neither a digit nor `;` -/
theorem enc_dec_open (ds sc e : Bytes) (C : UInt8) (hne : ds ≠ []) (hall : ds.all isDig = true) (hv : decFrom 0 ds ≤ 0x1000FF)
    (hst : Stops isDig e) (h32 : 32 < decFrom 0 ds) (hC : accByte (decFrom 0 ds : Nat) = C) (h : Enc sc e) :
    Enc (C :: sc) (([38, 35] ++ ds) ++ e) :=
  Enc.char C _ _ (unit_dec_open ds e hne hall hv hst) (by omega) hC h

/-- a hexadecimal reference without `;`, when the next byte (if any) is neither a hexadecimal digit nor `;` -/
theorem enc_hex_open (x : UInt8) (hx : x = 120 ∨ x = 88) (ds sc e : Bytes) (C : UInt8) (hne : ds ≠ [])
    (hall : ds.all isHex = true) (hv : hexFrom 0 ds ≤ 0x1000FF) (hst : Stops isHex e)
    (h32 : 32 < hexFrom 0 ds) (hC : accByte (hexFrom 0 ds : Nat) = C) (h : Enc sc e) :
    Enc (C :: sc) (([38, 35, x] ++ ds) ++ e) :=
  Enc.char C _ _ (unit_hex_open x hx ds e hne hall hv hst) (by omega) hC h

/-- a literal NUL or LF between units -/
theorem enc_nul (c : UInt8) (hc : c = 0 ∨ c = 10) (sc e : Bytes) (h : Enc sc e) : Enc sc (c :: e) :=
  Enc.skip [c] c.toNat (unit_lit c e (by rcases hc with rfl | rfl <;> decide))
    (by rcases hc with rfl | rfl <;> simp) h

/-- non-vacuity: `&#x6A;&#0097;` NUL `V` LF `&#X41;script:alert(1)` spells `JAVASCRIPT:` -/
example : Enc [74, 65, upperAscii 86, 65] ([38, 35, 120] ++ [54, 65] ++ [59] ++ ([38, 35] ++ [48, 48, 57, 55] ++ [59] ++
    0 :: 86 :: 10 :: ([38, 35, 88] ++ [52, 49] ++ [59] ++ bs "script:alert(1)"))) := by
  have h0 : Enc [] (bs "script:alert(1)") := Enc.done _
  have h1 := enc_hex 88 (Or.inr rfl) [52, 49] [] _ 65 (by decide) (by decide) (by decide) (by decide) (by decide) h0
  have h2 := enc_nul 10 (Or.inr rfl) _ _ h1
  have h3 := enc_lit 86 _ _ (by decide) (by decide) h2
  have h4 := enc_nul 0 (Or.inl rfl) _ _ h3
  have h5 := enc_dec [48,48,57,55] _ _ 65 (by decide) (by decide) (by decide) (by decide) (by decide) h4
  have h6 := enc_hex 120 (Or.inl rfl) [54, 65] _ _ 74 (by decide) (by decide) (by decide) (by decide) (by decide) h5
  exact h6

/-- non-vacuity of the forms without `;`: `&#106&#X41vascript:` spells `JA` -/
example : Enc [74, 65] (([38, 35] ++ [49, 48, 54]) ++ (([38, 35, 88] ++ [52, 49]) ++ bs "vascript:")) := by
  have h0 : Enc [] (bs "vascript:") := Enc.done _
  have h1 := enc_hex_open 88 (Or.inr rfl) [52, 49] [] (bs "vascript:") 65 (by decide) (by decide) (by decide)
    (Or.inr ⟨118, bs "ascript:", by decide +kernel, by decide, by decide⟩) (by decide) (by decide) h0
  exact enc_dec_open [49, 48, 54] _ _ 74 (by decide) (by decide) (by decide)
    (Or.inr ⟨38, _, rfl, by decide, by decide⟩) (by decide) (by decide) h1

example : (variants javascript).length = 132 := by decide +kernel

end LibInj.Properties.C19
