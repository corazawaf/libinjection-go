import LibInj.Gen.Audit
import LibInj.Sqli.Check
import LibInj.Xss.IsXSS
/-! # C05 — both detectors are thread-safe and pure

What a Lean model can carry, and what it cannot:

* `audit_clean` (class E, regenerated from /repo's *source text* on every run by `vharness audit`):
  no function body writes, increments, appends to, deletes from, takes the address of, ranges into,
  or calls a pointer method on a package-level variable; there is no `go` statement, no `init`
  function, and no import of `sync`, `sync/atomic`, `unsafe`, `os`, `time`, `math/rand`, `runtime`, ….
  This is the side condition of the meta-theorem below for *this* package.
* `noninterference`: for any family of calls whose steps read a shared store and write only their
  own local state, every interleaving gives each call the state it reaches when run alone
  (induction over the schedule).
* `isSQLi_deterministic`, `isXSS_deterministic`: in the model the result is a function of the input.

Not exhibitable by a model: data races at the level of the Go memory model, scheduler effects. For
those the check runs the harness under `-race` with 32 goroutines over shared inputs, and history
mode (random call sequences, each answer compared with the model's fresh-state answer). -/
namespace LibInj.Properties.C05
open LibInj

/-- **C05, static side condition** — re-checked against the regenerated audit on every build. -/
theorem audit_clean :
    Gen.Audit.ok = true ∧ Gen.Audit.globalWrites = [] ∧ Gen.Audit.goStmts = 0 ∧
    Gen.Audit.initFuncs = 0 ∧ Gen.Audit.impureImports = [] := by decide

/-! ## Abstract non-interference -/

section NI
variable {G L : Type}

/-- one scheduling step: call `i` takes one step, reading the shared store `g`, writing only its own local -/
def stepAt (step : G → L → L) (g : G) (ls : List L) (i : Nat) : List L :=
  match ls[i]? with
  | some l => ls.set i (step g l)
  | none => ls

/-- run a schedule (a list of call indices) -/
def runSched (step : G → L → L) (g : G) (ls : List L) (sched : List Nat) : List L :=
  sched.foldl (stepAt step g) ls

/-- run one call alone for `n` steps -/
def runAlone (step : G → L → L) (g : G) (l : L) : Nat → L
  | 0 => l
  | n + 1 => runAlone step g (step g l) n

theorem stepAt_length (step : G → L → L) (g : G) (ls : List L) (i : Nat) :
    (stepAt step g ls i).length = ls.length := by
  unfold stepAt; split <;> simp

theorem stepAt_get (step : G → L → L) (g : G) (ls : List L) (i j : Nat) :
    (stepAt step g ls i)[j]? = if i = j then (ls[j]?).map (step g) else ls[j]? := by
  unfold stepAt
  by_cases hij : i = j
  · subst hij
    cases h : ls[i]? with
    | none => simp [h]
    | some l =>
      have hlt : i < ls.length := by
        rcases Nat.lt_or_ge i ls.length with h' | h'
        · exact h'
        · simp [List.getElem?_eq_none h'] at h
      simp [hlt]
  · cases h : ls[i]? with
    | none => simp [hij]
    | some l => simp [hij]

/-- **Non-interference.** After any schedule, call `j` holds exactly the state it reaches when run
alone for as many steps as the schedule gave it: what the other calls did is invisible to it. -/
theorem noninterference (step : G → L → L) (g : G) (sched : List Nat) :
    ∀ (ls : List L) (j : Nat), (runSched step g ls sched)[j]? =
      (ls[j]?).map (fun l => runAlone step g l (sched.count j)) := by
  induction sched with
  | nil => intro ls j; simp [runSched, runAlone]
  | cons i rest ih =>
    intro ls j
    have : runSched step g ls (i :: rest) = runSched step g (stepAt step g ls i) rest := rfl
    rw [this, ih, stepAt_get]
    by_cases hij : i = j
    · subst hij
      cases h : ls[i]? with
      | none => simp
      | some l => simp [List.count_cons_self, runAlone]
    · have : (i == j) = false := by simpa using hij
      simp [hij]

end NI

/-- in the model a verdict is a function of the input alone -/
theorem isSQLi_deterministic (s t : Bytes) (h : s = t) : Sqli.isSQLi s = Sqli.isSQLi t := by rw [h]
theorem isXSS_deterministic (s t : Bytes) (h : s = t) : Xss.isXSS s = Xss.isXSS t := by rw [h]

/-- non-vacuity: two calls, interleaved, each reaches what it reaches alone -/
example : runSched (fun (g : Nat) (l : Nat) => l + g) 3 [10, 20] [0, 1, 0] = [16, 23] := by decide

end LibInj.Properties.C05
