import LibInj.Proofs.XssTotal
import LibInj.Proofs.Regress
import LibInj.Gen.Audit
/-! # C02 — IsXSS is total: it returns for every byte string, never panics or overflows

The model panics where the Go code can (every index/slice is checked, loops carry explicit fuel,
call recursion carries an explicit depth). These theorems say it never does, for every input:

* `isXSS_total` — `IsXSS` returns a verdict for every byte string: no index/slice error, no fuel
  exhaustion with loop fuel `3|s|+4`, no depth exhaustion with recursion depths 4 (attribute states)
  and 6 (data/tag-open/end-tag-open) — the formal reading of "does not exhaust the goroutine stack";
* `tokenizer_total` — the same for the token stream from each of the five start contexts;
* `decoder_total`, `url_matcher_total` — the character-reference decoder and the scheme matcher;
* `cdata_shipped_guard_panics` — the guard shipped at 0520984 is refuted in the kernel on
  `<![CDATA[]]]` (regression witness of the repaired defect).

* `go_calls_within_model` — **the call structure the stack bound rests on is re-checked against the source on
  every run**: the direct calls between `state*` methods that the translator finds in `/repo`'s `html5.go`
  (`Gen.Audit.h5Calls`, regenerated) all occur in the model's call graph `modelCalls`, whose only cycles are
  `stateData → stateTagOpen (→ stateEndTagOpen) → stateData` and `stateBeforeAttributeName ↔
  stateSelfClosingStartTag` — the two recursions the model bounds by depths 6 and 4 and `isXSS_total` proves
  sufficient. A new state-to-state call in the Go code (a state that starts calling itself per input byte, say)
  falsifies this theorem without any input having to exercise it.

Proof: a postcondition `Good` for each of the 20 state functions (no error, input untouched, `pos`
inside and monotone, token inside the input, progress), the invariant `Inv` re-established by every
emitting step, and the measure `3·(bytes left) + rank(state)` that strictly decreases. -/
namespace LibInj.Properties.C02
open LibInj LibInj.H5 LibInj.Xss

/-- the direct calls between state functions in the model (`Html5/Machine.lean`), under their Go names; the three
`stateAttributeValue{Single,Double,Back}Quote` wrappers are the model's `stateAttributeValueQuote q` -/
def modelCalls : List (String × String) := [
  ("stateAfterAttributeName", "stateAttributeName"), ("stateAfterAttributeName", "stateBeforeAttributeValue"),
  ("stateAfterAttributeName", "stateSelfClosingStartTag"), ("stateAfterAttributeName", "stateTagNameClose"),
  ("stateAfterAttributeValueQuotedState", "stateBeforeAttributeName"), ("stateAfterAttributeValueQuotedState", "stateSelfClosingStartTag"),
  ("stateAttributeValueBackQuote", "stateAttributeValueQuote"), ("stateAttributeValueDoubleQuote", "stateAttributeValueQuote"),
  ("stateAttributeValueSingleQuote", "stateAttributeValueQuote"),
  ("stateBeforeAttributeName", "stateAttributeName"), ("stateBeforeAttributeName", "stateSelfClosingStartTag"),
  ("stateBeforeAttributeValue", "stateAttributeValueBackQuote"), ("stateBeforeAttributeValue", "stateAttributeValueDoubleQuote"),
  ("stateBeforeAttributeValue", "stateAttributeValueNoQuote"), ("stateBeforeAttributeValue", "stateAttributeValueSingleQuote"),
  ("stateData", "stateTagOpen"),
  ("stateEndTagOpen", "stateBogusComment"), ("stateEndTagOpen", "stateData"), ("stateEndTagOpen", "stateTagName"),
  ("stateMarkupDeclarationOpen", "stateBogusComment"), ("stateMarkupDeclarationOpen", "stateCData"),
  ("stateMarkupDeclarationOpen", "stateComment"), ("stateMarkupDeclarationOpen", "stateDoctype"),
  ("stateSelfClosingStartTag", "stateBeforeAttributeName"),
  ("stateTagOpen", "stateBogusComment"), ("stateTagOpen", "stateBogusComment2"), ("stateTagOpen", "stateData"),
  ("stateTagOpen", "stateEndTagOpen"), ("stateTagOpen", "stateMarkupDeclarationOpen"), ("stateTagOpen", "stateTagName")]

theorem go_calls_within_model : Gen.Audit.h5Calls.all (fun e => modelCalls.contains e) = true := by decide

theorem isXSS_total (s : Bytes) : ∃ b, isXSS s = .ok b := Xss.isXSS_total s

theorem isXSS_ctx_total (s : Bytes) (ctx : Nat) : ∃ b, isXSSCtx s ctx = .ok b := Xss.isXSSCtx_total s ctx

theorem tokenizer_total (s : Bytes) (ctx : Nat) :
    ∃ ts, tokens s ctx = .ok ts ∧ (∀ t ∈ ts, t.off + t.len ≤ s.length) ∧ ts.length ≤ 3 * s.length + 3 :=
  H5.tokens_total s ctx

theorem decoder_total (s : Bytes) (hs : s ≠ []) :
    ∃ v c, htmlDecodeByteAt s = .ok (v, c) ∧ 0 ≤ v ∧ v ≤ 0x1000FF ∧ 1 ≤ c ∧ c ≤ s.length :=
  htmlDecodeByteAt_ok s hs

theorem url_matcher_total (s : Bytes) : ∃ r, isBlackURL s = .ok r := isBlackURL_ok s

/-- every emitting step stays inside the input, makes progress and re-establishes the invariant -/
theorem step_progress (h : H) (hi : Inv h) :
    ∃ b h', next h = .ok (b, h') ∧ h'.s = h.s ∧
      (b = true → mu h' < mu h ∧ Inv h' ∧ h'.tokStart + h'.tokLen ≤ h.s.length ∧ h.pos ≤ h'.pos) :=
  next_spec h hi

/-- the input `<![CDATA[]]]`, positioned after the opener (offset 9) -/
def cdataWitness : H := { s := [60,33,91,67,68,65,84,65,91,93,93,93], pos := 9 }

/-- the shipped end-of-input guard reads out of range on `<![CDATA[]]]` … -/
theorem cdata_shipped_guard_panics :
    (match cdataLoopShipped cdataWitness 9 13 with | .error .oob => true | _ => false) = true := by decide

/-- … the repaired loop does not -/
theorem cdata_repaired_ok :
    (match cdataLoop cdataWitness 9 13 with | .ok (true, h) => h.tokLen == 3 && h.state == .eof | _ => false) = true := by
  decide

/-- non-vacuity: a multi-token input goes through several states -/
example : (match tokens [60,97,32,98,61,39,99,39,47,62,60,33,45,45,120,45,45,62] 0 with | .ok ts => ts.length | _ => 0) = 5 := by
  decide +kernel

end LibInj.Properties.C02
