import LibInj.Spec.SqliGrammar
/-! C03 grammar, second part: the parenthesis-closing skeletons and the comment-truncation table of `harness/oracle_sql.go`
(`c03ParenSkeletons`, their prefixes, and the `c03Trunc*` table). -/
namespace LibInj.Spec.SqliGrammar
open LibInj

/-- skeletons detected only when the injection closes a parenthesis (the payload re-opens it) -/
def parenSkeletons : List (List Bytes) := [
  [[111, 114], [40, 49, 61, 49]],
  [[97, 110, 100], [40, 49, 61, 49]],
  [[111, 114], [40, 39, 97, 39, 61, 39, 97]],
  [[111, 114], [40, 49, 41, 61, 40, 49]],
  [[111, 114], [40, 40, 49, 61, 49, 41]]
]

def parenPrefixes : List Bytes := [
  [49, 41, 32],
  [120, 39, 41, 32],
  [49, 41],
  [120, 39, 41],
  [49, 41, 41, 32],
  [120, 34, 41, 32]
]

/-- comment truncation: a context prefix directly followed by a comment opener -/
def truncations : List Bytes := [
  [49, 45, 45],
  [49, 45, 45, 10],
  [49, 47, 42],
  [49, 47, 42, 33, 49, 42, 47],
  [49, 47, 42, 32, 120],
  [49, 45, 45, 32, 120],
  [49, 32, 45, 45, 32, 120],
  [49, 32, 45, 45],
  [49, 32, 45, 45, 10],
  [49, 32, 47, 42],
  [49, 32, 47, 42, 33, 49, 42, 47],
  [49, 32, 47, 42, 32, 120],
  [49, 32, 45, 45, 32, 120],
  [49, 32, 32, 45, 45, 32, 120],
  [120, 39, 45, 45],
  [120, 39, 45, 45, 10],
  [120, 39, 47, 42],
  [120, 39, 47, 42, 33, 49, 42, 47],
  [120, 39, 47, 42, 32, 120],
  [120, 39, 32, 45, 45],
  [120, 39, 32, 45, 45, 10],
  [120, 39, 32, 47, 42],
  [120, 39, 32, 47, 42, 33, 49, 42, 47],
  [120, 39, 32, 47, 42, 32, 120],
  [120, 34, 45, 45],
  [120, 34, 45, 45, 10],
  [120, 34, 47, 42],
  [120, 34, 47, 42, 33, 49, 42, 47],
  [120, 34, 47, 42, 32, 120],
  [120, 34, 32, 45, 45],
  [120, 34, 32, 45, 45, 10],
  [120, 34, 32, 47, 42],
  [120, 34, 32, 47, 42, 33, 49, 42, 47],
  [120, 34, 32, 47, 42, 32, 120],
  [49, 41, 45, 45],
  [49, 41, 45, 45, 10],
  [49, 41, 47, 42],
  [49, 41, 47, 42, 33, 49, 42, 47],
  [49, 41, 47, 42, 32, 120],
  [49, 41, 45, 45, 32, 120],
  [49, 41, 32, 45, 45, 32, 120],
  [49, 41, 45, 45, 32, 120],
  [49, 41, 32, 45, 45, 32, 120],
  [49, 41, 35],
  [49, 41, 35, 32, 120],
  [49, 41, 32, 45, 45],
  [49, 41, 32, 45, 45, 10],
  [49, 41, 32, 47, 42],
  [49, 41, 32, 47, 42, 33, 49, 42, 47],
  [49, 41, 32, 47, 42, 32, 120],
  [49, 41, 32, 45, 45, 32, 120],
  [49, 41, 32, 32, 45, 45, 32, 120],
  [49, 41, 32, 45, 45, 32, 120],
  [49, 41, 32, 32, 45, 45, 32, 120],
  [49, 41, 32, 35],
  [49, 41, 32, 35, 32, 120],
  [120, 39, 41, 45, 45],
  [120, 39, 41, 45, 45, 10],
  [120, 39, 41, 47, 42],
  [120, 39, 41, 47, 42, 33, 49, 42, 47],
  [120, 39, 41, 47, 42, 32, 120],
  [120, 39, 41, 45, 45, 32, 120],
  [120, 39, 41, 32, 45, 45, 32, 120],
  [120, 39, 41, 35],
  [120, 39, 41, 35, 32, 120],
  [120, 39, 41, 32, 45, 45],
  [120, 39, 41, 32, 45, 45, 10],
  [120, 39, 41, 32, 47, 42],
  [120, 39, 41, 32, 47, 42, 33, 49, 42, 47],
  [120, 39, 41, 32, 47, 42, 32, 120],
  [120, 39, 41, 32, 45, 45, 32, 120],
  [120, 39, 41, 32, 32, 45, 45, 32, 120],
  [120, 39, 41, 32, 35],
  [120, 39, 41, 32, 35, 32, 120]
]

def membersOfParen (sk : List Bytes) : List Bytes :=
  (parenPrefixes.flatMap fun p => tails.map fun t => render p sk [32] t) ++
  (parenPrefixes.flatMap fun p => seps.map fun sp => render p sk sp [])

end LibInj.Spec.SqliGrammar
